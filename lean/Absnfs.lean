import Absnfs.Bytes
import Absnfs.Xdr
import Absnfs.Rpc
import Absnfs.RecordMark
import Absnfs.Access
import Absnfs.Auth
import Absnfs.Handles
import Absnfs.HandlesInv
import Absnfs.Lru
import Absnfs.Bucket
import Absnfs.Portmap
import Absnfs.Config
import Absnfs.Startup
import Absnfs.Tls
import Absnfs.Pool
import Absnfs.PoolInv
import Absnfs.Drain
import Absnfs.Conns
import Absnfs.Fs
import Absnfs.Rfc1813
import Absnfs.Server
import Absnfs.ServerRun
import Absnfs.ServerOpRun
import Absnfs.ServerFrame
import Absnfs.ServerReadOnly
import Absnfs.ServerDir
import Absnfs.ServerData
import Absnfs.ServerCreate
import Absnfs.Durable
import Absnfs.FsLemmas
import Absnfs.ServerOwner
import Absnfs.ServerAttrs
import Absnfs.ServerShape
import Absnfs.ServerPaths
import Absnfs.ConnLoop
import Absnfs.ServerCoherent
import Absnfs.FsWF
import Absnfs.FsFrame
import Absnfs.FsRename
import Absnfs.ServerInv
import Absnfs.ServerKeeps
import Absnfs.ServerInvProcs
import Absnfs.ServerReplies
import Absnfs.ServerFailed
import Absnfs.FsReach
import Absnfs.ServerHandles
import Absnfs.ServerStale
import Absnfs.ServerMade
import Absnfs.ServerListing
import Absnfs.FsSorted
import Absnfs.ServerDcSafe
import Absnfs.ServerDcSup
import Absnfs.ServerWalk
import Absnfs.BytesComm
import Absnfs.BytesSpec
