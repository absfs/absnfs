/-
  Rfc1813: typed NFSv3 / MOUNTv3 results (RFC 1813) with an encoder and an exact decoder.
  Times are not part of the typed value: the encoder writes zeros, the decoder skips them, so the same decoder
  reads real server replies (any times) and model replies.
-/
import Absnfs.Xdr
namespace Absnfs
namespace Rfc

structure Fattr where
  ftype : Nat
  mode : Nat
  nlink : Nat
  uid : Nat
  gid : Nat
  size : Nat
  used : Nat
  fileid : Nat
  deriving DecidableEq, Repr

def Fattr.WF (a : Fattr) : Prop :=
  1 ≤ a.ftype ∧ a.ftype ≤ 7 ∧ a.mode < 4294967296 ∧ a.nlink < 4294967296 ∧ a.uid < 4294967296 ∧
  a.gid < 4294967296 ∧ a.size < 18446744073709551616 ∧ a.used < 18446744073709551616 ∧
  a.fileid < 18446744073709551616

/-- fattr3: type mode nlink uid gid size used rdev(2) fsid fileid atime mtime ctime = 84 bytes -/
def encFattr (a : Fattr) : Bytes :=
  encU32 a.ftype ++ encU32 a.mode ++ encU32 a.nlink ++ encU32 a.uid ++ encU32 a.gid ++
  encU64 a.size ++ encU64 a.used ++ zeros 8 ++ zeros 8 ++ encU64 a.fileid ++ zeros 24

def decFattr (bs : Bytes) : Option (Fattr × Bytes) :=
  match decU32 bs with
  | none => none
  | some (ft, r1) =>
  if ft < 1 ∨ ft > 7 then none else
  match decU32 r1 with
  | none => none
  | some (mode, r2) =>
  match decU32 r2 with
  | none => none
  | some (nlink, r3) =>
  match decU32 r3 with
  | none => none
  | some (uid, r4) =>
  match decU32 r4 with
  | none => none
  | some (gid, r5) =>
  match decU64 r5 with
  | none => none
  | some (size, r6) =>
  match decU64 r6 with
  | none => none
  | some (used, r7) =>
  match take? 16 r7 with      -- rdev (specdata3) and fsid
  | none => none
  | some (_, r8) =>
  match decU64 r8 with
  | none => none
  | some (fileid, r9) =>
  match take? 24 r9 with      -- atime, mtime, ctime
  | none => none
  | some (_, r10) =>
    some ({ ftype := ft, mode := mode, nlink := nlink, uid := uid, gid := gid, size := size, used := used,
            fileid := fileid }, r10)

theorem decFattr_encFattr (a : Fattr) (rest : Bytes) (h : a.WF) :
    decFattr (encFattr a ++ rest) = some (a, rest) := by
  obtain ⟨h1, h2, h3, h4, h5, h6, h7, h8, h9⟩ := h
  have h32 : a.ftype < 4294967296 := Nat.lt_of_le_of_lt h2 (by decide)
  -- rdev and fsid are skipped together
  have z16 (x : Bytes) : zeros 8 ++ (zeros 8 ++ x) = zeros 16 ++ x := rfl
  simp only [decFattr, encFattr, List.append_assoc, decU32_encU32, decU64_encU64, z16, take?_zeros, h32, h3, h4, h5, h6,
    h7, h8, h9, if_neg (not_or.2 ⟨Nat.not_lt.2 h1, Nat.not_lt.2 h2⟩)]

/-- post_op_attr -/
def encPostOp : Option Fattr → Bytes
  | none => encU32 0
  | some a => encU32 1 ++ encFattr a

def decPostOp (bs : Bytes) : Option (Option Fattr × Bytes) :=
  match decU32 bs with
  | none => none
  | some (f, r) =>
    if f = 0 then some (none, r)
    else if f = 1 then (match decFattr r with | none => none | some (a, r') => some (some a, r'))
    else none

theorem decPostOp_enc (o : Option Fattr) (rest : Bytes) (h : ∀ a, o = some a → a.WF) :
    decPostOp (encPostOp o ++ rest) = some (o, rest) := by
  cases o with
  | none => simp [decPostOp, encPostOp, decU32_encU32]
  | some a => simp [decPostOp, encPostOp, decU32_encU32, decFattr_encFattr a _ (h a rfl)]

/-- wcc_attr (size; mtime, ctime skipped) and pre_op_attr -/
def encPreOp : Option Nat → Bytes
  | none => encU32 0
  | some sz => encU32 1 ++ encU64 sz ++ zeros 16

def decPreOp (bs : Bytes) : Option (Option Nat × Bytes) :=
  match decU32 bs with
  | none => none
  | some (f, r) =>
    if f = 0 then some (none, r)
    else if f = 1 then
      match decU64 r with
      | none => none
      | some (sz, r1) => match take? 16 r1 with
        | none => none
        | some (_, r2) => some (some sz, r2)
    else none

theorem decPreOp_enc (o : Option Nat) (rest : Bytes) (h : ∀ a, o = some a → a < 18446744073709551616) :
    decPreOp (encPreOp o ++ rest) = some (o, rest) := by
  cases o with
  | none => simp [decPreOp, encPreOp, decU32_encU32]
  | some a => simp [decPreOp, encPreOp, decU32_encU32, decU64_encU64, take?_zeros, h a rfl]

structure Wcc where
  pre : Option Nat
  post : Option Fattr
  deriving DecidableEq, Repr

def Wcc.WF (w : Wcc) : Prop := (∀ a, w.pre = some a → a < 18446744073709551616) ∧ (∀ a, w.post = some a → a.WF)

def encWcc (w : Wcc) : Bytes := encPreOp w.pre ++ encPostOp w.post

def decWcc (bs : Bytes) : Option (Wcc × Bytes) :=
  match decPreOp bs with
  | none => none
  | some (pre, r) => match decPostOp r with
    | none => none
    | some (post, r') => some (⟨pre, post⟩, r')

theorem decWcc_enc (w : Wcc) (rest : Bytes) (h : w.WF) : decWcc (encWcc w ++ rest) = some (w, rest) := by
  simp [decWcc, encWcc, decPreOp_enc _ _ h.1, decPostOp_enc _ _ h.2]

/-- post_op_fh3 -/
def encPostFh : Option Nat → Bytes
  | none => encU32 0
  | some h => encU32 1 ++ encFh h

def decPostFh (bs : Bytes) : Option (Option Nat × Bytes) :=
  match decU32 bs with
  | none => none
  | some (f, r) =>
    if f = 0 then some (none, r)
    else if f = 1 then (match decFh 64 8 r with | none => none | some (h, r') => some (some h, r'))
    else none

theorem decPostFh_enc (o : Option Nat) (rest : Bytes) (h : ∀ a, o = some a → a < 18446744073709551616) :
    decPostFh (encPostFh o ++ rest) = some (o, rest) := by
  cases o with
  | none => simp [decPostFh, encPostFh, decU32_encU32]
  | some a => simp [decPostFh, encPostFh, decU32_encU32, decFh_encFh, h a rfl]

/-! ### Result bodies, grouped by wire shape -/

structure DirEnt where
  fileid : Nat
  name : Bytes
  cookie : Nat
  deriving DecidableEq, Repr

structure DirEntPlus where
  fileid : Nat
  name : Bytes
  cookie : Nat
  attr : Option Fattr
  fh : Option Nat
  deriving DecidableEq, Repr

inductive Body where
  | void                                              -- NULL, UMNT, UMNTALL (no status word at all)
  | statusOnly                                        -- GETATTR3resfail, MNT failure
  | attr (a : Fattr)                                  -- GETATTR3resok
  | wcc (w : Wcc)                                     -- SETATTR, REMOVE, RMDIR; *resfail of WRITE/CREATE/MKDIR/SYMLINK/MKNOD/COMMIT
  | postOp (o : Option Fattr)                         -- *resfail of LOOKUP/ACCESS/READLINK/READ/READDIR(PLUS)/FSSTAT/FSINFO/PATHCONF
  | lookupOk (fh : Nat) (obj dir : Option Fattr)
  | accessOk (obj : Option Fattr) (access : Nat)
  | readlinkOk (obj : Option Fattr) (path : Bytes)
  | readOk (obj : Option Fattr) (count : Nat) (eof : Bool) (data : Bytes)
  | writeOk (w : Wcc) (count committed : Nat) (verf : Bytes)
  | createOk (fh : Option Nat) (obj : Option Fattr) (w : Wcc)   -- CREATE/MKDIR/SYMLINK/MKNOD resok
  | wcc2 (a b : Wcc)                                  -- RENAME
  | linkRes (o : Option Fattr) (w : Wcc)              -- LINK
  | readdirOk (dir : Option Fattr) (verf : Bytes) (ents : List DirEnt) (eof : Bool)
  | readdirplusOk (dir : Option Fattr) (verf : Bytes) (ents : List DirEntPlus) (eof : Bool)
  | fsstatOk (o : Option Fattr) (tbytes fbytes abytes tfiles ffiles afiles invarsec : Nat)
  | fsinfoOk (o : Option Fattr) (rtmax rtpref rtmult wtmax wtpref wtmult dtpref maxfilesize tdSec tdNsec props : Nat)
  | pathconfOk (o : Option Fattr) (linkmax nameMax noTrunc chownRestricted caseInsensitive casePreserving : Nat)
  | commitOk (w : Wcc) (verf : Bytes)
  | mntOk (fh : Bytes) (flavors : List Nat)
  | mountList (names : List (Bytes × Bytes))          -- DUMP: (hostname, directory)*
  | exportList (exports : List (Bytes × List Bytes))  -- EXPORT: (dir, groups*)*
  deriving DecidableEq, Repr

structure Res where
  status : Nat
  body : Body
  deriving DecidableEq, Repr

def encBool (b : Bool) : Bytes := encU32 (if b then 1 else 0)

def encDirEnts : List DirEnt → Bytes
  | [] => encU32 0
  | e :: es => encU32 1 ++ encU64 e.fileid ++ encOpaque e.name ++ encU64 e.cookie ++ encDirEnts es

def encDirEntsPlus : List DirEntPlus → Bytes
  | [] => encU32 0
  | e :: es => encU32 1 ++ encU64 e.fileid ++ encOpaque e.name ++ encU64 e.cookie ++ encPostOp e.attr ++
      encPostFh e.fh ++ encDirEntsPlus es

def encMountList : List (Bytes × Bytes) → Bytes
  | [] => encU32 0
  | (h, d) :: es => encU32 1 ++ encOpaque h ++ encOpaque d ++ encMountList es

def encGroups : List Bytes → Bytes
  | [] => encU32 0
  | g :: gs => encU32 1 ++ encOpaque g ++ encGroups gs

def encExports : List (Bytes × List Bytes) → Bytes
  | [] => encU32 0
  | (d, gs) :: es => encU32 1 ++ encOpaque d ++ encGroups gs ++ encExports es

def encBody : Body → Bytes
  | .void => []
  | .statusOnly => []
  | .attr a => encFattr a
  | .wcc w => encWcc w
  | .postOp o => encPostOp o
  | .lookupOk fh obj dir => encFh fh ++ encPostOp obj ++ encPostOp dir
  | .accessOk obj acc => encPostOp obj ++ encU32 acc
  | .readlinkOk obj p => encPostOp obj ++ encOpaque p
  | .readOk obj cnt eof data => encPostOp obj ++ encU32 cnt ++ encBool eof ++ encOpaque data
  | .writeOk w cnt com verf => encWcc w ++ encU32 cnt ++ encU32 com ++ verf
  | .createOk fh obj w => encPostFh fh ++ encPostOp obj ++ encWcc w
  | .wcc2 a b => encWcc a ++ encWcc b
  | .linkRes o w => encPostOp o ++ encWcc w
  | .readdirOk d verf ents eof => encPostOp d ++ verf ++ encDirEnts ents ++ encBool eof
  | .readdirplusOk d verf ents eof => encPostOp d ++ verf ++ encDirEntsPlus ents ++ encBool eof
  | .fsstatOk o a b c d e f g => encPostOp o ++ encU64 a ++ encU64 b ++ encU64 c ++ encU64 d ++ encU64 e ++ encU64 f ++ encU32 g
  | .fsinfoOk o a b c d e f g mfs t1 t2 pr =>
      encPostOp o ++ encU32 a ++ encU32 b ++ encU32 c ++ encU32 d ++ encU32 e ++ encU32 f ++ encU32 g ++
      encU64 mfs ++ encU32 t1 ++ encU32 t2 ++ encU32 pr
  | .pathconfOk o a b c d e f => encPostOp o ++ encU32 a ++ encU32 b ++ encU32 c ++ encU32 d ++ encU32 e ++ encU32 f
  | .commitOk w verf => encWcc w ++ verf
  | .mntOk fh fl => encOpaque fh ++ encU32 fl.length ++ fl.flatMap encU32
  | .mountList l => encMountList l
  | .exportList l => encExports l

/-- the bytes after the RPC accepted-reply header -/
def encRes (r : Res) : Bytes :=
  match r.body with
  | .void => []
  | .mountList l => encMountList l          -- DUMP and EXPORT have no status word
  | .exportList l => encExports l
  | b => encU32 r.status ++ encBody b

/-- members of nfsstat3 (RFC 1813 §2.6) -/
def nfsstat3 : List Nat :=
  [0, 1, 2, 5, 6, 13, 17, 18, 19, 20, 21, 22, 27, 28, 30, 31, 63, 66, 69, 70, 71,
   10001, 10002, 10003, 10004, 10005, 10006, 10007, 10008]

/-- members of mountstat3 (RFC 1813 §5.1.5) -/
def mountstat3 : List Nat := [0, 1, 2, 5, 13, 20, 22, 63, 10004, 10006]

def decBool (bs : Bytes) : Option (Bool × Bytes) :=
  match decU32 bs with
  | some (0, r) => some (false, r)
  | some (1, r) => some (true, r)
  | _ => none

def decDirEnts : Nat → Bytes → Option (List DirEnt × Bytes)
  | 0, _ => none
  | fuel + 1, bs =>
    match decU32 bs with
    | none => none
    | some (more, r0) =>
      if more = 0 then some ([], r0) else if more ≠ 1 then none else
      match decU64 r0 with
      | none => none
      | some (fid, r1) =>
      match decOpaque 4294967295 r1 with
      | none => none
      | some (name, r2) =>
      match decU64 r2 with
      | none => none
      | some (ck, r3) =>
        match decDirEnts fuel r3 with
        | none => none
        | some (rest, r4) => some (⟨fid, name, ck⟩ :: rest, r4)

def decDirEntsPlus : Nat → Bytes → Option (List DirEntPlus × Bytes)
  | 0, _ => none
  | fuel + 1, bs =>
    match decU32 bs with
    | none => none
    | some (more, r0) =>
      if more = 0 then some ([], r0) else if more ≠ 1 then none else
      match decU64 r0 with
      | none => none
      | some (fid, r1) =>
      match decOpaque 4294967295 r1 with
      | none => none
      | some (name, r2) =>
      match decU64 r2 with
      | none => none
      | some (ck, r3) =>
      match decPostOp r3 with
      | none => none
      | some (attr, r4) =>
      match decPostFh r4 with
      | none => none
      | some (fh, r5) =>
        match decDirEntsPlus fuel r5 with
        | none => none
        | some (rest, r6) => some (⟨fid, name, ck, attr, fh⟩ :: rest, r6)

def decU32s' : Nat → Bytes → Option (List Nat × Bytes)
  | 0, bs => some ([], bs)
  | n + 1, bs =>
    match decU32 bs with
    | none => none
    | some (v, r) => match decU32s' n r with
      | none => none
      | some (vs, r') => some (v :: vs, r')

def decU64s' : Nat → Bytes → Option (List Nat × Bytes)
  | 0, bs => some ([], bs)
  | n + 1, bs =>
    match decU64 bs with
    | none => none
    | some (v, r) => match decU64s' n r with
      | none => none
      | some (vs, r') => some (v :: vs, r')

def decMountList : Nat → Bytes → Option (List (Bytes × Bytes) × Bytes)
  | 0, _ => none
  | fuel + 1, bs =>
    match decU32 bs with
    | none => none
    | some (more, r0) =>
      if more = 0 then some ([], r0) else if more ≠ 1 then none else
      match decOpaque 255 r0 with
      | none => none
      | some (h, r1) => match decOpaque 1024 r1 with
        | none => none
        | some (d, r2) => match decMountList fuel r2 with
          | none => none
          | some (rest, r3) => some ((h, d) :: rest, r3)

def decGroups : Nat → Bytes → Option (List Bytes × Bytes)
  | 0, _ => none
  | fuel + 1, bs =>
    match decU32 bs with
    | none => none
    | some (more, r0) =>
      if more = 0 then some ([], r0) else if more ≠ 1 then none else
      match decOpaque 255 r0 with
      | none => none
      | some (g, r1) => match decGroups fuel r1 with
        | none => none
        | some (rest, r2) => some (g :: rest, r2)

def decExports : Nat → Bytes → Option (List (Bytes × List Bytes) × Bytes)
  | 0, _ => none
  | fuel + 1, bs =>
    match decU32 bs with
    | none => none
    | some (more, r0) =>
      if more = 0 then some ([], r0) else if more ≠ 1 then none else
      match decOpaque 1024 r0 with
      | none => none
      | some (d, r1) => match decGroups (r1.length + 1) r1 with
        | none => none
        | some (gs, r2) => match decExports fuel r2 with
          | none => none
          | some (rest, r3) => some ((d, gs) :: rest, r3)

/-- finish: the decoder must have consumed everything -/
def done (b : Body) (rest : Bytes) : Option Body := if rest = [] then some b else none

def decWccBody (bs : Bytes) : Option Body :=
  match decWcc bs with | none => none | some (w, r) => done (.wcc w) r

def decPostOpBody (bs : Bytes) : Option Body :=
  match decPostOp bs with | none => none | some (o, r) => done (.postOp o) r

def decCreateOk (bs : Bytes) : Option Body :=
  match decPostFh bs with
  | none => none
  | some (fh, r1) => match decPostOp r1 with
    | none => none
    | some (obj, r2) => match decWcc r2 with
      | none => none
      | some (w, r3) => done (.createOk fh obj w) r3

/-- NFSv3 results: the body after the status word, for procedure `proc` and status `st` -/
def decNfsBody (proc st : Nat) (bs : Bytes) : Option Body :=
  let ok := st = 0
  match proc with
  | 1 => if ok then (match decFattr bs with | none => none | some (a, r) => done (.attr a) r) else done .statusOnly bs
  | 2 => decWccBody bs
  | 3 => if ok then
      (match decFh 64 8 bs with
       | none => none
       | some (fh, r1) => match decPostOp r1 with
         | none => none
         | some (obj, r2) => match decPostOp r2 with
           | none => none
           | some (dir, r3) => done (.lookupOk fh obj dir) r3)
    else decPostOpBody bs
  | 4 => if ok then
      (match decPostOp bs with
       | none => none
       | some (obj, r1) => match decU32 r1 with
         | none => none
         | some (acc, r2) => done (.accessOk obj acc) r2)
    else decPostOpBody bs
  | 5 => if ok then
      (match decPostOp bs with
       | none => none
       | some (obj, r1) => match decOpaque 4294967295 r1 with
         | none => none
         | some (p, r2) => done (.readlinkOk obj p) r2)
    else decPostOpBody bs
  | 6 => if ok then
      (match decPostOp bs with
       | none => none
       | some (obj, r1) => match decU32 r1 with
         | none => none
         | some (cnt, r2) => match decBool r2 with
           | none => none
           | some (eof, r3) => match decOpaque 4294967295 r3 with
             | none => none
             | some (data, r4) => done (.readOk obj cnt eof data) r4)
    else decPostOpBody bs
  | 7 => if ok then
      (match decWcc bs with
       | none => none
       | some (w, r1) => match decU32 r1 with
         | none => none
         | some (cnt, r2) => match decU32 r2 with
           | none => none
           | some (com, r3) => if com > 2 then none else match take? 8 r3 with
             | none => none
             | some (verf, r4) => done (.writeOk w cnt com verf) r4)
    else decWccBody bs
  | 8 | 9 | 10 | 11 => if ok then decCreateOk bs else decWccBody bs
  | 12 | 13 => decWccBody bs
  | 14 => (match decWcc bs with
      | none => none
      | some (a, r1) => match decWcc r1 with
        | none => none
        | some (b, r2) => done (.wcc2 a b) r2)
  | 15 => (match decPostOp bs with
      | none => none
      | some (o, r1) => match decWcc r1 with
        | none => none
        | some (w, r2) => done (.linkRes o w) r2)
  | 16 => if ok then
      (match decPostOp bs with
       | none => none
       | some (d, r1) => match take? 8 r1 with
         | none => none
         | some (verf, r2) => match decDirEnts (r2.length + 1) r2 with
           | none => none
           | some (ents, r3) => match decBool r3 with
             | none => none
             | some (eof, r4) => done (.readdirOk d verf ents eof) r4)
    else decPostOpBody bs
  | 17 => if ok then
      (match decPostOp bs with
       | none => none
       | some (d, r1) => match take? 8 r1 with
         | none => none
         | some (verf, r2) => match decDirEntsPlus (r2.length + 1) r2 with
           | none => none
           | some (ents, r3) => match decBool r3 with
             | none => none
             | some (eof, r4) => done (.readdirplusOk d verf ents eof) r4)
    else decPostOpBody bs
  | 18 => if ok then
      (match decPostOp bs with
       | none => none
       | some (o, r0) =>
         match decU64s' 6 r0 with
         | some ([a, b, c, d, e, f], r6) =>
           (match decU32 r6 with
            | none => none
            | some (g, r7) => done (.fsstatOk o a b c d e f g) r7)
         | _ => none)
    else decPostOpBody bs
  | 19 => if ok then
      (match decPostOp bs with
       | none => none
       | some (o, r0) =>
         match decU32s' 7 r0 with
         | some ([a, b, c, d, e, f, g], r1) =>
           (match decU64 r1 with
            | none => none
            | some (mfs, r2) =>
              match decU32s' 3 r2 with
              | some ([t1, t2, pr], r3) => done (.fsinfoOk o a b c d e f g mfs t1 t2 pr) r3
              | _ => none)
         | _ => none)
    else decPostOpBody bs
  | 20 => if ok then
      (match decPostOp bs with
       | none => none
       | some (o, r0) =>
         match decU32s' 6 r0 with
         | some ([a, b, c, d, e, f], r1) =>
           if c > 1 ∨ d > 1 ∨ e > 1 ∨ f > 1 then none else done (.pathconfOk o a b c d e f) r1
         | _ => none)
    else decPostOpBody bs
  | 21 => if ok then
      (match decWcc bs with
       | none => none
       | some (w, r1) => match take? 8 r1 with
         | none => none
         | some (verf, r2) => done (.commitOk w verf) r2)
    else decWccBody bs
  | _ => none

/-- Decoder of the result of (program, procedure): the whole byte string must be consumed and the body must
    have the RFC shape for its status; with `strict` the status must be a member of nfsstat3 / mountstat3. -/
def decResWith (strict : Bool) (prog proc : Nat) (bs : Bytes) : Option Res :=
  if prog = 100003 then
    if proc = 0 then (if bs = [] then some ⟨0, .void⟩ else none)
    else match decU32 bs with
      | none => none
      | some (st, r) =>
        if st ∈ nfsstat3 ∨ ¬ strict then (decNfsBody proc st r).map fun b => ⟨st, b⟩ else none
  else if prog = 100005 then
    match proc with
    | 0 | 3 | 4 => if bs = [] then some ⟨0, .void⟩ else none
    | 1 => (match decU32 bs with
      | none => none
      | some (st, r) =>
        if st ∉ mountstat3 ∧ strict then none
        else if st ≠ 0 then (done .statusOnly r).map fun b => ⟨st, b⟩
        else match decOpaque 64 r with
          | none => none
          | some (fh, r1) => match decU32 r1 with
            | none => none
            | some (n, r2) => match decU32s' n r2 with
              | none => none
              | some (fl, r3) => (done (.mntOk fh fl) r3).map fun b => ⟨0, b⟩)
    | 2 => (match decMountList (bs.length + 1) bs with
      | none => none
      | some (l, r) => (done (.mountList l) r).map fun b => ⟨0, b⟩)
    | 5 => (match decExports (bs.length + 1) bs with
      | none => none
      | some (l, r) => (done (.exportList l) r).map fun b => ⟨0, b⟩)
    | _ => none
  else none

/-- the exact decoder (status must be a member of nfsstat3 / mountstat3) -/
def decRes (prog proc : Nat) (bs : Bytes) : Option Res := decResWith true prog proc bs

theorem encFattr_length (a : Fattr) : (encFattr a).length = 84 := by
  simp [encFattr]

theorem done_some {b b' : Body} {r : Bytes} (h : done b r = some b') : b' = b := by
  unfold done at h
  split at h
  · exact (Option.some.inj h).symm
  · cases h

theorem decWccBody_some {bs : Bytes} {b : Body} (h : decWccBody bs = some b) : ∃ w, b = .wcc w := by
  unfold decWccBody at h
  split at h
  · cases h
  · exact ⟨_, done_some h⟩

theorem decPostOpBody_some {bs : Bytes} {b : Body} (h : decPostOpBody bs = some b) : ∃ o, b = .postOp o := by
  unfold decPostOpBody at h
  split at h
  · cases h
  · exact ⟨_, done_some h⟩

theorem decCreateOk_some {bs : Bytes} {b : Body} (h : decCreateOk bs = some b) : ∃ fh o w, b = .createOk fh o w := by
  revert h
  fun_cases decCreateOk bs
  · nofun
  · nofun
  · nofun
  · exact fun h => ⟨_, _, _, done_some h⟩

end Rfc
end Absnfs
