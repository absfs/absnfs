/-
  RecordMark: RFC 1831 §10 record marking.
  Models rpc_transport.go: RecordMarkingReader.ReadRecord, RecordMarkingWriter.WriteRecord.
  The stream is the list of bytes still to be read; a reader returns the record and the remaining stream.
-/
import Absnfs.Xdr
namespace Absnfs

/-- Fragment header: 31-bit length, top bit = last fragment. -/
def fragHdr (last : Bool) (len : Nat) : Bytes :=
  encU32 (if last then 2147483648 + len else len)

/-- ReadRecord's loop. `fuel` bounds the number of fragments (each consumes ≥ 4 bytes of the stream). -/
def readFrags : Nat → Nat → Bytes → Bytes → Option (Bytes × Bytes)
  | 0, _, _, _ => none
  | fuel + 1, maxRec, acc, bs =>
    match decU32 bs with
    | none => none
    | some (hdr, r) =>
      let len := hdr % 2147483648
      if acc.length + len > maxRec then none else
      match take? len r with
      | none => none
      | some (frag, r') =>
        if hdr ≥ 2147483648 then some (acc ++ frag, r')
        else readFrags fuel maxRec (acc ++ frag) r'

/-- ReadRecord: `maxRec` is the effective MaxRecordSize. -/
def readRecord (maxRec : Nat) (bs : Bytes) : Option (Bytes × Bytes) :=
  readFrags (bs.length / 4 + 1) maxRec [] bs

/-- Allocation sizes (`make([]byte, fragmentLen)`) performed by ReadRecord, in order. -/
def readFragsAllocs : Nat → Nat → Nat → Bytes → List Nat
  | 0, _, _, _ => []
  | fuel + 1, maxRec, accLen, bs =>
    match decU32 bs with
    | none => []
    | some (hdr, r) =>
      let len := hdr % 2147483648
      if accLen + len > maxRec then [] else
      len :: (match take? len r with
        | none => []
        | some (_, r') =>
          if hdr ≥ 2147483648 then [] else readFragsAllocs fuel maxRec (accLen + len) r')

/-- A record sent as the given fragments (all but the last without the last-fragment bit). -/
def frame : List Bytes → Bytes
  | [] => []
  | [p] => fragHdr true p.length ++ p
  | p :: q :: ps => fragHdr false p.length ++ p ++ frame (q :: ps)

theorem frame_length_ge (ps : List Bytes) : 4 * ps.length ≤ (frame ps).length := by
  induction ps using frame.induct with
  | case1 => exact Nat.le_refl 0
  | case2 p => simp [frame, fragHdr]
  | case3 p q ps ih =>
    rw [frame, List.length_append, List.length_append, fragHdr, encU32_length, List.length_cons, Nat.mul_succ]
    omega

theorem readFrags_fragHdr (fuel maxRec : Nat) (acc p rest : Bytes) (last : Bool)
    (h31 : p.length < 2147483648) (hsz : acc.length + p.length ≤ maxRec) :
    readFrags (fuel + 1) maxRec acc (fragHdr last p.length ++ (p ++ rest)) =
      if last then some (acc ++ p, rest) else readFrags fuel maxRec (acc ++ p) rest := by
  -- the header word is below 2^32, its low 31 bits are the length and its top bit is `last`
  have h32 : 2147483648 + p.length < 4294967296 := Nat.add_lt_add_left h31 _
  cases last <;>
    simp [readFrags, fragHdr, decU32_encU32, Nat.lt_trans h31, h32, Nat.mod_eq_of_lt h31, take?_append,
      Nat.not_lt.2 hsz, Nat.not_le.2 h31]

theorem readFrags_frame (fuel maxRec : Nat) (acc : Bytes) (pieces : List Bytes) (rest : Bytes)
    (hne : pieces ≠ []) (hfuel : pieces.length ≤ fuel)
    (hsz : acc.length + pieces.flatten.length ≤ maxRec)
    (h31 : ∀ p ∈ pieces, p.length < 2147483648) :
    readFrags fuel maxRec acc (frame pieces ++ rest) = some (acc ++ pieces.flatten, rest) := by
  induction pieces generalizing fuel acc with
  | nil => exact absurd rfl hne
  | cons p ps ih =>
    rw [List.forall_mem_cons] at h31
    cases fuel with
    | zero => cases hfuel
    | succ fuel =>
    rw [List.flatten_cons, List.length_append, ← Nat.add_assoc] at hsz
    rw [List.flatten_cons, ← List.append_assoc]
    cases ps with
    | nil =>
      rw [frame, List.append_assoc, readFrags_fragHdr _ _ _ _ _ _ h31.1 hsz, if_pos rfl, List.flatten_nil,
        List.append_nil]
    | cons q qs =>
      rw [frame, List.append_assoc, List.append_assoc,
        readFrags_fragHdr _ _ _ _ _ _ h31.1 (Nat.le_trans (Nat.le_add_right ..) hsz), if_neg Bool.false_ne_true,
        ih fuel (acc ++ p) (List.cons_ne_nil _ _) (Nat.le_of_succ_le_succ hfuel) (by rwa [List.length_append]) h31.2]

theorem readRecord_frame (maxRec : Nat) (pieces : List Bytes) (rest : Bytes)
    (hne : pieces ≠ []) (hsz : pieces.flatten.length ≤ maxRec)
    (h31 : ∀ p ∈ pieces, p.length < 2147483648) :
    readRecord maxRec (frame pieces ++ rest) = some (pieces.flatten, rest) := by
  -- every fragment takes at least its 4-byte header from the stream, so the fuel suffices
  have hfuel : pieces.length ≤ (frame pieces ++ rest).length / 4 + 1 := by
    have := frame_length_ge pieces
    rw [List.length_append]; omega
  rw [readRecord, readFrags_frame _ maxRec [] pieces rest hne hfuel (by rwa [List.length_nil, Nat.zero_add]) h31,
    List.nil_append]

/-- Fragments of at most `m` bytes, in order; the empty record is one empty (last) fragment. -/
def chunks : Nat → Nat → Bytes → List Bytes
  | 0, _, d => [d]
  | f + 1, m, d => if d.length ≤ m then [d] else d.take m :: chunks f m (d.drop m)

/-- WriteRecord with effective maximum fragment size `m`. -/
def writeRecord (m : Nat) (d : Bytes) : Bytes := frame (chunks d.length m d)

theorem chunks_ne_nil (f m : Nat) (d : Bytes) : chunks f m d ≠ [] := by
  cases f with
  | zero => simp [chunks]
  | succ f => simp only [chunks]; split <;> simp

theorem chunks_flatten (f m : Nat) (d : Bytes) : (chunks f m d).flatten = d := by
  induction f generalizing d with
  | zero => simp [chunks]
  | succ f ih =>
    simp only [chunks]
    split
    · simp
    · simp [ih, List.take_append_drop]

theorem chunks_bounded (f m : Nat) (d : Bytes) (hm : 0 < m) (hf : d.length ≤ f) :
    ∀ p ∈ chunks f m d, p.length ≤ m := by
  induction f generalizing d with
  | zero => simp [chunks]; omega
  | succ f ih =>
    simp only [chunks]
    split
    · simpa
    · rw [List.forall_mem_cons]
      exact ⟨List.length_take_le .., ih _ (by simp; omega)⟩

theorem readRecord_writeRecord (maxRec m : Nat) (d rest : Bytes)
    (hm : 0 < m) (hm31 : m < 2147483648) (hd : d.length ≤ maxRec) :
    readRecord maxRec (writeRecord m d ++ rest) = some (d, rest) := by
  have := readRecord_frame maxRec (chunks d.length m d) rest (chunks_ne_nil _ _ _)
    (by rw [chunks_flatten]; exact hd)
    (fun p hp => Nat.lt_of_le_of_lt (chunks_bounded d.length m d hm (Nat.le_refl _) p hp) hm31)
  rwa [chunks_flatten] at this

theorem readFrags_oversize (fuel maxRec : Nat) (acc : Bytes) (hdr : Nat) (rest : Bytes)
    (h32 : hdr < 4294967296) (hbig : acc.length + hdr % 2147483648 > maxRec) :
    readFrags (fuel + 1) maxRec acc (encU32 hdr ++ rest) = none ∧
    readFragsAllocs (fuel + 1) maxRec acc.length (encU32 hdr ++ rest) = [] := by
  simp [readFrags, readFragsAllocs, decU32_encU32 _ h32, hbig]

theorem readFragsAllocs_sum (fuel maxRec accLen : Nat) (bs : Bytes) (hacc : accLen ≤ maxRec) :
    accLen + (readFragsAllocs fuel maxRec accLen bs).sum ≤ maxRec := by
  induction fuel generalizing accLen bs with
  | zero => exact hacc
  | succ fuel ih =>
    simp only [readFragsAllocs]
    split; · exact hacc
    split; · exact hacc
    rename_i hfit
    have hfit := Nat.not_lt.1 hfit
    rw [List.sum_cons, ← Nat.add_assoc]
    split; · exact hfit
    split; · exact hfit
    exact ih _ _ hfit

end Absnfs
