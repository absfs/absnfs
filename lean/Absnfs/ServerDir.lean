/-
  ServerDir: the entry loops of READDIR and READDIRPLUS (`fillDir`, `fillDirPlus`; C26). Both pass over the entries up
  to the cookie and then take entries for as long as the reply stays within the limit: `fits` counts how many that are,
  `pageOf` is the reply as a function of that count, and each loop is shown equal to it once (`page_eq`, `pagePlus_eq`).
  `fillDirPlus` is `fillDir` with `plusExtra` more bytes per entry, attributes and a handle in every entry, and the
  state threaded through (every entry written allocates a handle); what the entries list does not depend on the state.
-/
import Absnfs.Server
namespace Absnfs
namespace Server

def entsSize : List Rfc.DirEnt → Nat
  | [] => 0
  | e :: es => entrySize e.name + entsSize es

def numbered (i : Nat) : List Node → List Rfc.DirEnt
  | [] => []
  | e :: es => { fileid := e.attrs.fileId, name := baseName e.path, cookie := i + 1 } :: numbered (i + 1) es

theorem numbered_length (i : Nat) (l : List Node) : (numbered i l).length = l.length := by
  induction l generalizing i with
  | nil => rfl
  | cons e es ih => simp [numbered, ih]

theorem numbered_take (i k : Nat) (l : List Node) : (numbered i l).take k = numbered i (l.take k) := by
  induction l generalizing i k with
  | nil => simp [numbered]
  | cons e es ih =>
    cases k with
    | zero => simp [numbered]
    | succ k => simp [numbered, ih]

theorem numbered_drop (i k : Nat) (l : List Node) : (numbered i l).drop k = numbered (i + k) (l.drop k) := by
  induction l generalizing i k with
  | nil => simp [numbered]
  | cons e es ih =>
    cases k with
    | zero => rfl
    | succ k => rw [numbered, List.drop_succ_cons, List.drop_succ_cons, ih, Nat.add_right_comm, Nat.add_assoc]

theorem numbered_append (i : Nat) (a b : List Node) : numbered i (a ++ b) = numbered i a ++ numbered (i + a.length) b := by
  induction a generalizing i with
  | nil => simp [numbered]
  | cons e es ih =>
    simp only [List.cons_append, numbered, List.length_cons, ih]
    rw [show i + 1 + es.length = i + (es.length + 1) by omega]

theorem numbered_getLast (i : Nat) (l : List Node) (h : l ≠ []) :
    ∃ last, (numbered i l).getLast? = some last ∧ last.cookie = i + l.length := by
  obtain ⟨init, e, rfl⟩ := (List.eq_nil_or_concat l).resolve_left h
  rw [List.concat_eq_append, numbered_append]
  exact ⟨_, List.getLast?_concat .., by rw [List.length_append]; rfl⟩

/-- `extra`: 0 for READDIR, `plusExtra` for READDIRPLUS -/
def fits (extra limit : Nat) : Nat → List Node → Nat
  | _, [] => 0
  | used, e :: es =>
    if used + entrySize (baseName e.path) + extra + dirListTrailer > limit then 0
    else fits extra limit (used + entrySize (baseName e.path) + extra) es + 1

theorem fits_le (extra limit used : Nat) (l : List Node) : fits extra limit used l ≤ l.length := by
  induction l generalizing used with
  | nil => exact Nat.le_refl 0
  | cons e es ih =>
    unfold fits
    split
    · exact Nat.zero_le _
    · exact Nat.succ_le_succ (ih _)

theorem fits_size (extra limit i used : Nat) (l : List Node) (h0 : used + dirListTrailer ≤ limit) :
    used + entsSize (numbered i (l.take (fits extra limit used l))) + extra * fits extra limit used l + dirListTrailer
      ≤ limit := by
  induction l generalizing i used with
  | nil => exact h0
  | cons e es ih =>
    unfold fits
    split
    · exact h0
    · have := ih (i + 1) (used + entrySize (baseName e.path) + extra) (by omega)
      simp only [List.take_succ_cons, numbered, entsSize, Nat.mul_add]
      omega

/-- the reply of either loop once the skipping is over; `cnt`: entries written so far (TOOSMALL only when none) -/
def pageOf (extra limit i used cnt : Nat) (l : List Node) : Fill Rfc.DirEnt :=
  if cnt = 0 ∧ l ≠ [] ∧ fits extra limit used l = 0 then .tooSmall
  else .done (numbered i (l.take (fits extra limit used l))) (decide (fits extra limit used l < l.length))

theorem pageOf_nil (extra limit i used cnt : Nat) : pageOf extra limit i used cnt [] = .done [] false := by
  simp [pageOf, fits, numbered]

/-- the recursion of `fillDir` / `fillDirPlus` past the cookie -/
theorem pageOf_cons (extra limit i used cnt : Nat) (e : Node) (es : List Node) :
    pageOf extra limit i used cnt (e :: es) =
      if used + entrySize (baseName e.path) + extra + dirListTrailer > limit then (if cnt = 0 then .tooSmall else .done [] true)
      else match pageOf extra limit (i + 1) (used + entrySize (baseName e.path) + extra) (cnt + 1) es with
        | .tooSmall => .tooSmall
        | .done l lim => .done ({ fileid := e.attrs.fileId, name := baseName e.path, cookie := i + 1 } :: l) lim := by
  by_cases hbig : used + entrySize (baseName e.path) + extra + dirListTrailer > limit
  · by_cases hc : cnt = 0 <;> simp [pageOf, fits, hbig, hc, numbered]
  · simp [pageOf, fits, hbig, numbered]

theorem pageOf_tooSmall_iff {extra limit i used cnt : Nat} {l : List Node} :
    pageOf extra limit i used cnt l = .tooSmall ↔
      cnt = 0 ∧ ∃ e es, l = e :: es ∧ used + entrySize (baseName e.path) + extra + dirListTrailer > limit := by
  cases l with
  | nil => simp [pageOf_nil]
  | cons e es =>
    by_cases hbig : used + entrySize (baseName e.path) + extra + dirListTrailer > limit <;>
      by_cases hc : cnt = 0 <;> simp [pageOf, fits, hbig, hc]

theorem pageOf_done {extra limit i used cnt : Nat} {l : List Node} {ents : List Rfc.DirEnt} {lim : Bool}
    (h : pageOf extra limit i used cnt l = .done ents lim) :
    ents = numbered i (l.take (fits extra limit used l)) ∧ (lim = false → fits extra limit used l = l.length) ∧
      (lim = true → fits extra limit used l < l.length ∧ (cnt = 0 → 0 < fits extra limit used l)) := by
  unfold pageOf at h
  split at h
  · cases h
  · rename_i hn
    cases h
    refine ⟨rfl, fun hf => Nat.le_antisymm (fits_le ..) (Nat.le_of_not_lt (of_decide_eq_false hf)), fun ht => ?_⟩
    have hk := of_decide_eq_true ht
    exact ⟨hk, fun hc => Nat.pos_of_ne_zero fun h0 => hn ⟨hc, fun hl => by rw [hl] at hk; exact absurd hk (Nat.not_lt_zero _), h0⟩⟩

theorem pageOf_size {extra limit i used cnt : Nat} {l : List Node} {ents : List Rfc.DirEnt} {lim : Bool}
    (h0 : used + dirListTrailer ≤ limit) (h : pageOf extra limit i used cnt l = .done ents lim) :
    used + entsSize ents + extra * ents.length + dirListTrailer ≤ limit := by
  obtain ⟨rfl, _, _⟩ := pageOf_done h
  rw [numbered_length, List.length_take, Nat.min_eq_left (fits_le ..)]
  exact fits_size extra limit i used l h0

theorem pageOf_slice {extra limit cookie used cnt : Nat} {nodes : List Node} {ents : List Rfc.DirEnt} {lim : Bool}
    (h : pageOf extra limit cookie used cnt (nodes.drop cookie) = .done ents lim) :
    ∃ k, ents = ((numbered 0 nodes).drop cookie).take k ∧ (lim = false → ents = (numbered 0 nodes).drop cookie) := by
  obtain ⟨hents, hall, _⟩ := pageOf_done h
  rw [numbered_drop, Nat.zero_add]
  exact ⟨_, by rw [numbered_take]; exact hents, fun hf => by rw [hents, hall hf, List.take_length]⟩

theorem fillDir_skip_to (limit cookie i used cnt : Nat) (l : List Node) (h : i ≤ cookie) :
    fillDir limit cookie i used cnt l = fillDir limit cookie cookie used cnt (l.drop (cookie - i)) := by
  induction l generalizing i with
  | nil => simp [fillDir]
  | cons e es ih =>
    rcases Nat.lt_or_eq_of_le h with hi | rfl
    · rw [fillDir, if_pos hi, ih (i + 1) hi, show cookie - i = cookie - (i + 1) + 1 by omega, List.drop_succ_cons]
    · rw [Nat.sub_self, List.drop_zero]

theorem fillDir_fill (limit cookie i used cnt : Nat) (l : List Node) (hi : cookie ≤ i) :
    fillDir limit cookie i used cnt l = pageOf 0 limit i used cnt l := by
  induction l generalizing i used cnt with
  | nil => exact (pageOf_nil ..).symm
  | cons e es ih =>
    rw [fillDir, if_neg (by omega), pageOf_cons, ← ih (i + 1) _ (cnt + 1) (by omega)]
    rfl

/-- the call `procReaddir` makes -/
def page (limit cookie : Nat) (nodes : List Node) : Fill Rfc.DirEnt := fillDir limit cookie 0 dirListHeader 0 nodes

theorem page_eq (limit cookie : Nat) (nodes : List Node) :
    page limit cookie nodes = pageOf 0 limit cookie dirListHeader 0 (nodes.drop cookie) := by
  unfold page
  rw [fillDir_skip_to limit cookie 0 dirListHeader 0 nodes (Nat.zero_le _), fillDir_fill _ _ _ _ _ _ (Nat.le_refl _)]
  rfl

def AllFit (limit : Nat) (nodes : List Node) : Prop :=
  ∀ e ∈ nodes, dirListHeader + entrySize (baseName e.path) + dirListTrailer ≤ limit

def walkPages (limit : Nat) (nodes : List Node) : Nat → Nat → Option (List Rfc.DirEnt)
  | 0, _ => none
  | fuel + 1, cookie =>
    match page limit cookie nodes with
    | .tooSmall => none
    | .done ents false => some ents
    | .done ents true =>
      match ents.getLast? with
      | none => none
      | some last => (walkPages limit nodes fuel last.cookie).map (ents ++ ·)

theorem pageOf_fit {extra limit cookie : Nat} {nodes : List Node}
    (hfit : ∀ e ∈ nodes, dirListHeader + entrySize (baseName e.path) + extra + dirListTrailer ≤ limit) :
    pageOf extra limit cookie dirListHeader 0 (nodes.drop cookie) ≠ .tooSmall := by
  intro h
  obtain ⟨_, e, es, hdrop, hbig⟩ := pageOf_tooSmall_iff.mp h
  have := hfit e (List.mem_of_mem_drop (hdrop ▸ List.mem_cons_self ..))
  omega

theorem pageOf_cut {extra limit cookie used : Nat} {nodes : List Node} {ents : List Rfc.DirEnt}
    (h : pageOf extra limit cookie used 0 (nodes.drop cookie) = .done ents true) :
    ∃ last, ents.getLast? = some last ∧ cookie < last.cookie ∧ last.cookie < nodes.length ∧
      ents ++ numbered last.cookie (nodes.drop last.cookie) = numbered cookie (nodes.drop cookie) := by
  obtain ⟨rfl, _, hcut⟩ := pageOf_done h
  obtain ⟨hk, hk0⟩ := hcut rfl
  have hk0 := hk0 rfl
  generalize fits extra limit used (nodes.drop cookie) = k at hk hk0 ⊢
  rw [List.length_drop] at hk
  have hlen : ((nodes.drop cookie).take k).length = k := by rw [List.length_take, List.length_drop]; omega
  obtain ⟨last, hlast, hc⟩ := numbered_getLast cookie _ (List.ne_nil_of_length_pos (hlen ▸ hk0))
  rw [hlen] at hc
  refine ⟨last, hlast, by omega, by omega, ?_⟩
  rw [hc]
  conv => rhs; rw [← List.take_append_drop k (nodes.drop cookie), numbered_append, hlen, List.drop_drop]

/-- C26: following the cookies from any position lists exactly the remaining entries, each once, in order,
    and ends with eof — provided each entry fits into a page on its own (otherwise the walk stops with
    NFS3ERR_TOOSMALL at that entry, by `page_eq`). The fuel only bounds the recursion: one more than the
    number of remaining entries always suffices, because every page that is not the last holds an entry. -/
theorem walkPages_complete (limit : Nat) (nodes : List Node) (hfit : AllFit limit nodes) (fuel cookie : Nat)
    (hfuel : nodes.length - cookie < fuel) :
    walkPages limit nodes fuel cookie = some (numbered cookie (nodes.drop cookie)) := by
  induction fuel generalizing cookie with
  | zero => omega
  | succ fuel ih =>
    unfold walkPages
    rw [page_eq]
    generalize hres : pageOf 0 limit cookie dirListHeader 0 (nodes.drop cookie) = res
    match res with
    | .tooSmall => exact absurd hres (pageOf_fit hfit)
    | .done ents false =>
      obtain ⟨rfl, hall, _⟩ := pageOf_done hres
      simp only [hall rfl, List.take_length]
    | .done ents true =>
      obtain ⟨last, hlast, _, _, happ⟩ := pageOf_cut hres
      simp only [hlast]
      rw [ih _ (by omega), Option.map_some, happ]

/-- `entrySize` is the encoded size of an entry3: the value-follows word, the fileid, the name and the cookie -/
theorem entrySize_eq (name : Bytes) : entrySize name = 4 + 8 + (encOpaque name).length + 8 := by
  rw [encOpaque_length, entrySize, pad4_round]
  omega

theorem encDirEnts_length (ents : List Rfc.DirEnt) : (Rfc.encDirEnts ents).length = entsSize ents + 4 := by
  induction ents with
  | nil => rfl
  | cons e es ih =>
    simp only [Rfc.encDirEnts, entsSize, entrySize_eq, List.length_append, encU32_length, encU64_length, ih]
    omega

/-- C26: the size that `fillDir` accounts for is the encoded size of READDIR3resok -/
theorem readdirOk_length (a : Rfc.Fattr) (verf : Bytes) (ents : List Rfc.DirEnt) (eof : Bool) (hv : verf.length = 8) :
    (Rfc.encBody (.readdirOk (some a) verf ents eof)).length = dirListHeader + entsSize ents + dirListTrailer := by
  simp only [Rfc.encBody, Rfc.encPostOp, Rfc.encBool, List.length_append, encU32_length, Rfc.encFattr_length,
    encDirEnts_length, hv, dirListHeader, dirListTrailer]
  omega

def plusSize : List Rfc.DirEntPlus → Nat
  | [] => 0
  | e :: es => entrySize e.name + plusExtra + plusSize es

def stripPlus (e : Rfc.DirEntPlus) : Rfc.DirEnt := { fileid := e.fileid, name := e.name, cookie := e.cookie }

theorem plusSize_eq (ents : List Rfc.DirEntPlus) : plusSize ents = entsSize (ents.map stripPlus) + plusExtra * ents.length := by
  induction ents with
  | nil => simp [plusSize, entsSize]
  | cons e es ih => simp only [plusSize, List.map_cons, entsSize, stripPlus, List.length_cons, ih]; rw [Nat.mul_add]; omega

theorem stripPlus_names (ents : List Rfc.DirEntPlus) : (ents.map stripPlus).map (·.name) = ents.map (·.name) := by
  rw [List.map_map]
  rfl

def Fill.strip : Fill Rfc.DirEntPlus → Fill Rfc.DirEnt
  | .tooSmall => .tooSmall
  | .done ents lim => .done (ents.map stripPlus) lim

theorem fillDirPlus_skip_to (limit cookie : Nat) (s : St) (i used cnt : Nat) (l : List Node) (h : i ≤ cookie) :
    fillDirPlus limit cookie s i used cnt l = fillDirPlus limit cookie s cookie used cnt (l.drop (cookie - i)) := by
  induction l generalizing i with
  | nil => simp [fillDirPlus]
  | cons e es ih =>
    rcases Nat.lt_or_eq_of_le h with hi | rfl
    · rw [fillDirPlus, if_pos hi, ih (i + 1) hi, show cookie - i = cookie - (i + 1) + 1 by omega, List.drop_succ_cons]
    · rw [Nat.sub_self, List.drop_zero]

theorem fillDirPlus_fill (limit cookie : Nat) (s : St) (i used cnt : Nat) (l : List Node) (hi : cookie ≤ i) :
    (fillDirPlus limit cookie s i used cnt l).2.strip = pageOf plusExtra limit i used cnt l := by
  induction l generalizing s i used cnt with
  | nil => exact (pageOf_nil ..).symm
  | cons e es ih =>
    rw [fillDirPlus, if_neg (by omega), pageOf_cons, ← ih (allocate s e).1 (i + 1) _ (cnt + 1) (by omega)]
    by_cases hbig : used + entrySize (baseName e.path) + plusExtra + dirListTrailer > limit
    · simp only [hbig, if_true]
      split <;> rfl
    · simp only [hbig, if_false]
      generalize fillDirPlus limit cookie (allocate s e).1 (i + 1) _ (cnt + 1) es = res
      obtain ⟨s2, _ | _⟩ := res <;> rfl

theorem pagePlus_eq {limit cookie : Nat} {s s' : St} {nodes : List Node} {fl : Fill Rfc.DirEntPlus}
    (h : fillDirPlus limit cookie s 0 dirListHeader 0 nodes = (s', fl)) :
    pageOf plusExtra limit cookie dirListHeader 0 (nodes.drop cookie) = fl.strip := by
  rw [← fillDirPlus_fill limit cookie s cookie dirListHeader 0 _ (Nat.le_refl _)]
  exact congrArg (·.2.strip) ((fillDirPlus_skip_to limit cookie s 0 dirListHeader 0 nodes (Nat.zero_le _)).symm.trans h)

theorem fillDirPlus_entries {limit cookie : Nat} {s s' : St} {i used cnt : Nat} {l : List Node} {ents : List Rfc.DirEntPlus}
    {lim : Bool} (h : fillDirPlus limit cookie s i used cnt l = (s', .done ents lim)) :
    ∀ e ∈ ents, ∃ n ∈ l, e.name = baseName n.path ∧ e.attr = some (toFattr n.attrs) ∧ e.fileid = n.attrs.fileId ∧
      e.fh.isSome := by
  intro e he
  fun_induction fillDirPlus limit cookie s i used cnt l generalizing ents s' lim with
  | case1 => cases h; cases he
  | case2 _ _ _ _ _ _ _ ih =>
    -- before the cookie: skipped
    obtain ⟨n, hn, hrest⟩ := ih h he
    exact ⟨n, List.mem_cons_of_mem _ hn, hrest⟩
  | case3 => split at h <;> cases h; cases he  -- the reply is full
  | case4 => cases h  -- the rest of the page comes out too small
  | case5 =>
    -- the entry of `x` in front of the rest of the page, `l2`
    rename_i x _ _ _ _ _ _ _ _ l2 _ hrec ih
    cases h
    rcases List.mem_cons.mp he with rfl | he
    · exact ⟨x, List.mem_cons_self .., rfl, rfl, rfl, rfl⟩
    · obtain ⟨n, hn, hrest⟩ := ih hrec he
      exact ⟨n, List.mem_cons_of_mem _ hn, hrest⟩

theorem fillDirPlus_some {limit cookie : Nat} {s s' : St} {i used cnt : Nat} {l : List Node} {ents : List Rfc.DirEntPlus}
    {lim : Bool} (h : fillDirPlus limit cookie s i used cnt l = (s', .done ents lim)) :
    ∀ e ∈ ents, e.attr.isSome ∧ e.fh.isSome := fun e he =>
  let ⟨_, _, _, ha, _, hf⟩ := fillDirPlus_entries h e he
  ⟨ha ▸ rfl, hf⟩

def AllFitPlus (limit : Nat) (nodes : List Node) : Prop :=
  ∀ e ∈ nodes, dirListHeader + entrySize (baseName e.path) + plusExtra + dirListTrailer ≤ limit

def walkPagesPlus (limit : Nat) (nodes : List Node) : Nat → St → Nat → Option (List Rfc.DirEntPlus)
  | 0, _, _ => none
  | fuel + 1, s, cookie =>
    match fillDirPlus limit cookie s 0 dirListHeader 0 nodes with
    | (_, .tooSmall) => none
    | (_, .done ents false) => some ents
    | (s', .done ents true) =>
      match ents.getLast? with
      | none => none
      | some last => (walkPagesPlus limit nodes fuel s' last.cookie).map (ents ++ ·)

/-- C26: `walkPages_complete` for READDIRPLUS, whatever the server state at each page (every page allocates handles) -/
theorem walkPagesPlus_complete (limit : Nat) (nodes : List Node) (hfit : AllFitPlus limit nodes) (fuel : Nat) (s : St)
    (cookie : Nat) (hfuel : nodes.length - cookie < fuel) :
    ∃ ents, walkPagesPlus limit nodes fuel s cookie = some ents ∧
      ents.map stripPlus = numbered cookie (nodes.drop cookie) ∧ ∀ e ∈ ents, e.attr.isSome ∧ e.fh.isSome := by
  induction fuel generalizing s cookie with
  | zero => omega
  | succ fuel ih =>
    unfold walkPagesPlus
    generalize hres : fillDirPlus limit cookie s 0 dirListHeader 0 nodes = res
    obtain ⟨s', fl⟩ := res
    have hpage := pagePlus_eq hres
    match fl with
    | .tooSmall => exact absurd hpage (pageOf_fit hfit)
    | .done ents false =>
      obtain ⟨hents, hall, _⟩ := pageOf_done hpage
      exact ⟨ents, rfl, by rw [hents, hall rfl, List.take_length], fillDirPlus_some hres⟩
    | .done ents true =>
      obtain ⟨last, hlast, hlt, _, happ⟩ := pageOf_cut hpage
      rw [List.getLast?_map] at hlast
      obtain ⟨lastp, hlastp, rfl⟩ := Option.map_eq_some_iff.mp hlast
      have hlt : cookie < lastp.cookie := hlt
      obtain ⟨rest, hwalk, hrest, hrsome⟩ := ih s' lastp.cookie (by omega)
      refine ⟨ents ++ rest, ?_, by rw [List.map_append, hrest]; exact happ, fun e he =>
        (List.mem_append.mp he).elim (fillDirPlus_some hres e) (hrsome e)⟩
      simp only [hlastp]
      rw [hwalk]
      rfl

theorem encDirEntsPlus_length (ents : List Rfc.DirEntPlus) (h : ∀ e ∈ ents, e.attr.isSome ∧ e.fh.isSome) :
    (Rfc.encDirEntsPlus ents).length = plusSize ents + 4 := by
  induction ents with
  | nil => rfl
  | cons e es ih =>
    obtain ⟨a, ha⟩ := Option.isSome_iff_exists.mp (h e (List.mem_cons_self ..)).1
    obtain ⟨f, hf⟩ := Option.isSome_iff_exists.mp (h e (List.mem_cons_self ..)).2
    simp only [Rfc.encDirEntsPlus, plusSize, entrySize_eq, plusExtra, List.length_append, encU32_length, encU64_length,
      ih fun x hx => h x (List.mem_cons_of_mem _ hx), ha, hf, Rfc.encPostOp, Rfc.encPostFh, Rfc.encFattr_length, encFh]
    omega

theorem readdirplusOk_length (a : Rfc.Fattr) (verf : Bytes) (ents : List Rfc.DirEntPlus) (eof : Bool) (hv : verf.length = 8)
    (h : ∀ e ∈ ents, e.attr.isSome ∧ e.fh.isSome) :
    (Rfc.encBody (.readdirplusOk (some a) verf ents eof)).length = dirListHeader + plusSize ents + dirListTrailer := by
  simp only [Rfc.encBody, Rfc.encPostOp, Rfc.encBool, List.length_append, encU32_length, Rfc.encFattr_length,
    encDirEntsPlus_length ents h, hv, dirListHeader, dirListTrailer]
  omega

end Server
end Absnfs
