/-
  ServerCreate: CREATE over a name that is taken (C03): which branches leave the object as it is
  (`createExisting_untouched`, `createExisting_fs`), and the exclusive-create verifier table (`sameExclusive_after_remember`).
-/
import Absnfs.ServerFrame
namespace Absnfs
namespace Server

def outStatus : Outcome → Option Nat
  | .res r => some r.status
  | _ => none

theorem createFinish_fs (s2 : St) (st : Nat) (c : Ctx) (n : Node) (pre : Attrs) (p : Bytes) :
    (createFinish s2 st c n pre p).1.fs = s2.fs := by
  cases createFinish_run s2 st c n pre p with
  | failed _ hr => rw [hr]; exact getAttrOr_fs ..
  | lookupFailed _ hl hr => rw [hr]; exact (getAttrOr_fs ..).trans (lookupPath_acOnly hl).fs
  | ok _ hl hr => rw [hr, allocate_fs, getAttrOr_fs]; exact (lookupPath_acOnly hl).fs

theorem createFinish_status (s2 : St) (st : Nat) (c : Ctx) (n : Node) (pre : Attrs) (p : Bytes) (h : st ≠ 0) :
    outStatus (createFinish s2 st c n pre p).2 = some st := by
  rw [createFinish, if_pos h]
  rfl

theorem createFinish_ok_only_from_zero (s2 : St) (st : Nat) (c : Ctx) (n : Node) (pre : Attrs) (p : Bytes)
    (h : outStatus (createFinish s2 st c n pre p).2 = some 0) : st = 0 :=
  Decidable.by_contra fun hst => hst (Option.some.inj ((createFinish_status s2 st c n pre p hst).symm.trans h))

/-- C03 (b, c) and C25: CREATE over an object that exists leaves the backend as it was, or (not EXCLUSIVE, a size
    within the limit) as Truncate to that size left it. -/
theorem createExisting_fs (s1 : St) (c : Ctx) (n : Node) (pre : Attrs) (p : Bytes) (info : Fs.Info) (how : Nat)
    (sa : Sattr3) (verf : Bytes) :
    (createExisting s1 c n pre p info how sa verf).1.fs = s1.fs ∨
    ∃ sz, how ≠ 2 ∧ sa.size = some sz ∧ exceedsMax s1.cfg sz = false ∧
      Fs.truncate s1.fs (fsPath p) sz = .ok (createExisting s1 c n pre p info how sa verf).1.fs := by
  unfold createExisting
  rw [createFinish_fs]
  cases createStep1_run s1 p info how sa verf with
  | exist _ hr => rw [hr]; exact .inl rfl
  | proceed _ _ _ h =>
    cases h with
    | kept _ hr | tooLarge _ _ _ hr | fbig _ _ _ hr | truncFailed _ _ _ hr => rw [hr]; exact .inl rfl
    | truncated hh hsz _ hmax ht hr => rw [hr]; exact .inr ⟨_, hh, hsz, hmax, ht⟩

/-- C03 (b): without an explicit size, and for every EXCLUSIVE create, nothing is touched, whatever the status. -/
theorem createExisting_untouched (s1 : St) (c : Ctx) (n : Node) (pre : Attrs) (p : Bytes) (info : Fs.Info) (how : Nat)
    (sa : Sattr3) (verf : Bytes) (hcase : how = 2 ∨ sa.size = none) :
    (createExisting s1 c n pre p info how sa verf).1.fs = s1.fs := by
  rcases createExisting_fs s1 c n pre p info how sa verf with h | ⟨sz, hh, hsz, _⟩
  · exact h
  · rcases hcase with h | h
    · exact absurd h hh
    · cases h.symm.trans hsz

theorem sameExclusive_after_remember (s : St) (p verf v2 : Bytes) :
    sameExclusive (rememberExclusive s p verf) p v2 = (verf == v2) := by
  unfold sameExclusive rememberExclusive
  simp only [List.find?_cons, beq_self_eq_true]

end Server
end Absnfs
