/-
  Access: the ACCESS3 decision (nfs_proc_attr.go: handleAccess).
  `selectPerm` picks the rwx bits of the caller's class; `grant` is the decision on booleans;
  `accessWire` is the function of the request mask word the handler computes.
-/
namespace Absnfs

/-- Requested / granted ACCESS3 bits as booleans. -/
structure AccessBits where
  read : Bool
  lookup : Bool
  modify : Bool
  extend : Bool
  delete : Bool
  execute : Bool
  deriving DecidableEq, Repr

/-- ACCESS3_READ=1, LOOKUP=2, MODIFY=4, EXTEND=8, DELETE=16, EXECUTE=32; higher bits are ignored. -/
def AccessBits.ofNat (m : Nat) : AccessBits :=
  { read := m.testBit 0, lookup := m.testBit 1, modify := m.testBit 2,
    extend := m.testBit 3, delete := m.testBit 4, execute := m.testBit 5 }

def AccessBits.toNat (a : AccessBits) : Nat :=
  (if a.read then 1 else 0) + (if a.lookup then 2 else 0) + (if a.modify then 4 else 0) +
  (if a.extend then 8 else 0) + (if a.delete then 16 else 0) + (if a.execute then 32 else 0)

/-- rwx bits of one permission class. -/
structure Rwx where
  r : Bool
  w : Bool
  x : Bool
  deriving DecidableEq, Repr

def Rwx.ofNat (p : Nat) : Rwx := { r := p.testBit 2, w := p.testBit 1, x := p.testBit 0 }

/-- The decision: what is granted, given the caller's class bits. -/
def grant (p : Rwx) (isDir readOnly : Bool) (q : AccessBits) : AccessBits :=
  { read := q.read && p.r,
    lookup := q.lookup && isDir && p.x,
    execute := q.execute && p.x,
    modify := !readOnly && q.modify && p.w,
    extend := !readOnly && q.extend && p.w,
    delete := !readOnly && q.delete && isDir && p.w }

/-- The word written into ACCESS3resok.access. -/
def accessWire (perm : Nat) (isDir readOnly : Bool) (mask : Nat) : Nat :=
  (grant (Rwx.ofNat perm) isDir readOnly (AccessBits.ofNat mask)).toNat

inductive PermClass where
  | owner | group | other
  deriving DecidableEq, Repr

/-- UNIX class selection as the handler does it (uid match, then primary gid, then auxiliary gids). -/
def selectClass (effUid effGid : Nat) (aux : List Nat) (fUid fGid : Nat) : PermClass :=
  if effUid = fUid then .owner
  else if effGid = fGid then .group
  else if fGid ∈ aux then .group
  else .other

def classShift : PermClass → Nat
  | .owner => 6
  | .group => 3
  | .other => 0

/-- rwx bits that apply to the caller: the class's bits, except that uid 0 gets everything. -/
def selectPerm (mode effUid effGid : Nat) (aux : List Nat) (fUid fGid : Nat) : Nat :=
  if effUid = 0 then 7
  else (mode >>> classShift (selectClass effUid effGid aux fUid fGid)) &&& 7

/-- The full ACCESS computation on a 32-bit request word. -/
def accessReply (mode : Nat) (isDir readOnly : Bool) (effUid effGid : Nat) (aux : List Nat)
    (fUid fGid : Nat) (mask : Nat) : Nat :=
  accessWire (selectPerm mode effUid effGid aux fUid fGid) isDir readOnly mask

theorem AccessBits.ofNat_toNat (a : AccessBits) : AccessBits.ofNat a.toNat = a := by
  obtain ⟨r, l, m, e, d, x⟩ := a
  revert r l m e d x
  decide +kernel

theorem AccessBits.toNat_lt (a : AccessBits) : a.toNat < 64 := by
  obtain ⟨r, l, m, e, d, x⟩ := a
  revert r l m e d x
  decide +kernel

end Absnfs
