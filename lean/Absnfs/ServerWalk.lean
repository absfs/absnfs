/-
  ServerWalk: following READDIR cookies over real handler calls (C26 end to end). Every NFS3_OK page from cookie `ck`
  is the slice of the backend's listing that starts at `ck`, whatever the directory cache holds or loses between two
  calls (ServerDcSup: `procReaddir_page`), and READDIR leaves backend and handle table alone; so pages of successive
  calls on a directory line up, and a walk that ends with eof has returned exactly the backend's directory — each
  name once, in name order.
-/
import Absnfs.ServerDcSup
import Absnfs.ServerReadOnly
namespace Absnfs
namespace Server

/-- the parts of the state a handle resolves through -/
def SameHandles (s s' : St) : Prop := s'.hs = s.hs ∧ s'.nodes = s.nodes

theorem SameHandles.nodeOf {s s' : St} (h : SameHandles s s') (hd : Nat) : nodeOf s' hd = nodeOf s hd := by
  unfold Server.nodeOf; rw [h.1, h.2]

theorem procReaddir_sameHandles (s : St) (c : Ctx) (args : Bytes) : SameHandles s (procReaddir s c args).1 := by
  have tab : TabSame s (procReaddir s c args).1 := by
    cases procReaddir_run s c args with
    | refused h => rw [h.fst]; exact ⟨rfl, rfl, rfl⟩
    | run _ _ _ _ _ _ hr =>
      cases hr with
      | readFailed hrd hr => rw [hr]; exact readDir_tab hrd
      | attrFailed hrd hg hr | tooSmall hrd hg _ hr | ok hrd hg _ hr =>
        rw [hr]; exact (readDir_tab hrd).trans (getAttr_acOnly hg).tabSame
  exact ⟨tab.1, tab.2.1⟩

/-- `Walk s0 hd s ck acc fin`: starting in `s0` with cookie 0, some number of NFS3_OK READDIR calls through handle `hd`
    (any count / verifier / caller / time per call) have led to state `s`, the next cookie is `ck` and the names
    returned so far are `acc`; `fin` says whether the last reply had eof -/
inductive Walk (s0 : St) (hd : Nat) : St → Nat → List Bytes → Bool → Prop
  | start : Walk s0 hd s0 0 [] false
  | page {s s' : St} {ck : Nat} {acc : List Bytes} {fin : Bool} (c : Ctx) (args r1 r2 : Bytes) (a : Option Rfc.Fattr) (verf : Bytes)
      (ents : List Rfc.DirEnt) (eof : Bool) :
      Walk s0 hd s ck acc fin → decFh' s args = some (hd, r1) → decU64 r1 = some (ck, r2) →
      procReaddir s c args = (s', .res ⟨0, .readdirOk a verf ents eof⟩) →
      Walk s0 hd s' (ck + ents.length) (acc ++ ents.map (·.name)) eof

/-- C26 end to end: whatever the directory cache does between the calls, the names returned by a walk are a prefix of
    the backend's listing of the directory, of length the cookie reached, and the whole listing once a reply said eof.
    The first four conjuncts are what the induction carries; the backend does not change during the walk because
    READDIR changes nothing in it (`procReaddir_fs`). -/
theorem walk_lists_the_directory (s0 : St) (hd : Nat) (n : Node) (hI0 : CInv s0) (hS0 : DcSup s0)
    (hn0 : nodeOf s0 hd = some n) {s : St} {ck : Nat} {acc : List Bytes} {fin : Bool} (w : Walk s0 hd s ck acc fin) :
    s.fs = s0.fs ∧ CInv s ∧ DcSup s ∧ nodeOf s hd = some n ∧
      acc = (listing s0.fs n.path).take ck ∧ ck = acc.length ∧ (fin = true → acc = listing s0.fs n.path) := by
  induction w with
  | start => exact ⟨rfl, hI0, hS0, hn0, by simp, rfl, by simp⟩
  | @page s s' ck acc fin c args r1 r2 a verf ents eof _ hfh hck hp ih =>
    obtain ⟨hfs, hI, hS, hn, hacc, hlen, _⟩ := ih
    obtain ⟨k, hk, heof⟩ := procReaddir_page s s' c args a verf ents eof hI hS hd ck r1 r2 n hfh hck hn hp
    rw [hfs] at hk heof
    have hs' : s' = (procReaddir s c args).1 := by rw [hp]
    refine ⟨by rw [hs', procReaddir_fs, hfs], hs' ▸ procReaddir_cinv s c args hI, hs' ▸ procReaddir_dcSup s c args hI hS,
      by rw [hs', (procReaddir_sameHandles s c args).nodeOf hd, hn], ?_, ?_, ?_⟩
    · -- the page is the slice of its own length
      rw [hacc, List.take_add, ← List.length_map (f := (·.name)), hk, List.length_take, ← List.take_eq_take_min]
    · rw [List.length_append, List.length_map, ← hlen]
    · intro he
      rw [hacc, heof he]
      exact List.take_append_drop ck _

end Server
end Absnfs
