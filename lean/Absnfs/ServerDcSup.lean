/-
  ServerDcSup: coherence of the directory cache across every procedure, and what READDIR answers because of it
  (C02 / C26).

  "Every cached listing equals the backend's listing of its key" is false of the model and of the code (DESIGN
  §11.7: a listing may have been stored for a key that was a symbolic link at the time). What does hold, and what
  makes the cache transparent, is `DcSup`: every cached listing of a key contains the name of every object the
  backend currently has directly below that key. READDIR looks every cached name up again, so names that no longer
  exist disappear from the reply; what must never happen is that an existing child is missing from a cached
  listing — that is the hidden mutation C02 forbids, and exactly what a forgotten invalidation produces.

  The invariant is preserved (`ListOK.mono`, `dcSupD_of_sub`: no listing is added, and below the key of a listing
  that stays nothing new exists) because
  * procedures that do not create names only shrink what exists (`Safe`),
  * CREATE / MKDIR / SYMLINK add one name below a directory whose listing they drop,
  * RENAME adds names only at or below the destination, and drops every listing at or below it and the
    destination's parent,
  * READDIR stores the backend's listing of the very key it read.

  What READDIR needs of the cache concerns the key of the directory alone (`SupAt`, which `DcSup` gives for every key
  and `DcCold` for the one it speaks of): then its nodes are the backend's directory in name order
  (`readDir_is_backend_at`; warm and cold cache are its two instances), so the entries the paging loops number are
  `expectedEnts` of the backend's `listing`, every NFS3_OK page is a slice of them (`procReaddir_page`), and a reply
  from cookie 0 with eof carries the listing.
-/
import Absnfs.ServerListing
import Absnfs.FsSorted
namespace Absnfs
namespace Server

/-- `CleanPath e.key` is there for `fsPath_inj` in `dcSupD_new` and `renameOp_dcSup`; the order (the backend's) for
    `Fs.Increasing.ext` in `readDir_is_backend_at` -/
def ListOK (fs : Fs.T) (e : Lru.Entry (List Bytes)) : Prop :=
  CleanPath e.key ∧ ∀ names, e.val = some names →
    Fs.Increasing names ∧ ∀ x, existsAt fs (fsPath e.key ++ [x]) = true → x ∈ names

def DcSupD (fs : Fs.T) (d : Option (Lru.Cache (List Bytes))) : Prop := ∀ c, d = some c → ∀ e ∈ c.entries, ListOK fs e
def DcSup (s : St) : Prop := DcSupD s.fs s.dc

/-- what `readDir` needs of the directory cache to list the directory at `p`: the invariant for the listings stored under
    `p` itself. `DcSup` has it for every key, a cache without a listing of `p` (`DcCold`) vacuously -/
def SupAt (s : St) (p : Bytes) : Prop := ∀ c, s.dc = some c → ∀ e ∈ c.entries, e.key = p → ListOK s.fs e

theorem DcSup.at {s : St} (h : DcSup s) (p : Bytes) : SupAt s p := fun c hc e he _ => h c hc e he

theorem DcCold.supAt {s : St} {p : Bytes} (h : DcCold s p) : SupAt s p :=
  fun c hc e he hk => absurd (List.mem_map.mpr ⟨e, he, hk⟩) (h c hc)

theorem ListOK.mono {fs fs' : Fs.T} {e : Lru.Entry (List Bytes)} (h : ListOK fs e)
    (hex : ∀ x, existsAt fs' (fsPath e.key ++ [x]) = true → existsAt fs (fsPath e.key ++ [x]) = true) : ListOK fs' e :=
  ⟨h.1, fun names hv => ⟨(h.2 names hv).1, fun x hx => (h.2 names hv).2 x (hex x hx)⟩⟩

theorem dcSupD_of_sub {fs fs' : Fs.T} {d d' : Option (Lru.Cache (List Bytes))} (h : DcSupD fs d) (hsub : DcSubD d d')
    (hex : ∀ c', d' = some c' → ∀ e ∈ c'.entries, ∀ x, existsAt fs' (fsPath e.key ++ [x]) = true →
      existsAt fs (fsPath e.key ++ [x]) = true) : DcSupD fs' d' := by
  intro c' hc' e he
  obtain ⟨c, hc, hs⟩ := hsub c' hc'
  exact (h c hc e (hs e he)).mono (hex c' hc' e he)

theorem dcSup_of_empty {s : St} (h : ∀ c, s.dc = some c → c.entries = []) : DcSup s := by
  intro c hc e he
  rw [h c hc] at he
  cases he

theorem dcSup_of_safe {s s' : St} (h : DcSup s) (hs : Safe s s') : DcSup s' :=
  dcSupD_of_sub h hs.sub fun _ _ _ _ _ hx => hs.ex _ hx

theorem mem_children_iff {fs : Fs.T} (hw : Fs.WF fs) (p : Fs.Path) (x : Fs.Name) :
    x ∈ (Fs.sortByName (Fs.children fs p)).map (·.1) ↔ existsAt fs (p ++ [x]) = true := by
  constructor
  · intro h
    obtain ⟨⟨n, e⟩, hy, rfl⟩ := List.mem_map.mp h
    obtain ⟨i, hi⟩ := Fs.child_exists hw (Fs.mem_sortByName.mp hy)
    exact existsAt_of_lstat hi
  · intro h
    obtain ⟨y, hg⟩ := Option.isSome_iff_exists.mp h
    exact List.mem_map.mpr ⟨(x, y), Fs.mem_sortByName.mpr (Fs.mem_children.mpr (Fs.mem_of_get hg)), rfl⟩

theorem readdir_names_children {fs : Fs.T} (hw : Fs.WF fs) {p : Fs.Path} {ents : List (Fs.Name × Fs.Info)}
    (h : Fs.readdir fs p = .ok ents) (x : Fs.Name) (hx : existsAt fs (p ++ [x]) = true) : x ∈ ents.map (·.1) := by
  -- something is stored below `p`, so `p` holds a directory and Readdir lists `p` itself
  obtain ⟨y, hg⟩ := Option.isSome_iff_exists.mp hx
  obtain ⟨pe, hpe, hd⟩ := Fs.prefix_is_dir hw hg (List.prefix_append p [x])
  have hdir : pe.kind = .dir := hd fun h0 => by simpa using congrArg List.length h0
  obtain ⟨q, e, hf, hn⟩ := Fs.readdir_names h
  rw [Fs.follow_of_walk_nonlink (Fs.walk_eq_of_get hw hpe) (by rw [hdir]; decide)] at hf
  cases hf
  rw [hn]
  exact (mem_children_iff hw p x).mpr hx

theorem readdir_names_increasing {fs : Fs.T} (hw : Fs.WF fs) {p : Fs.Path} {ents : List (Fs.Name × Fs.Info)}
    (h : Fs.readdir fs p = .ok ents) : Fs.Increasing (ents.map (·.1)) := by
  obtain ⟨q, _, _, hn⟩ := Fs.readdir_names h
  rw [hn]
  exact Fs.sorted_children_increasing hw q

theorem dcSupD_new {fs fs' : Fs.T} {d d' : Option (Lru.Cache (List Bytes))} {dir name : Bytes}
    (h : DcSupD fs d) (hd : CleanPath dir) (hsub : DcSubD d d') (hcold : DcColdD d' dir)
    (hex : ∀ q, q ≠ fsPath dir ++ [name] → existsAt fs' q = true → existsAt fs q = true) : DcSupD fs' d' := by
  refine dcSupD_of_sub h hsub fun c' hc' e he x hx => hex _ (fun heq => ?_) hx
  -- the new name is not below the key of a listing that stayed: that key would be `dir`, whose listing is gone
  obtain ⟨c, hc, hs⟩ := hsub c' hc'
  have hk : e.key = dir := fsPath_inj (h c hc e (hs e he)).1 hd (List.append_inj_left' heq rfl)
  exact hcold c' hc' (hk ▸ List.mem_map.mpr ⟨e, he, rfl⟩)

theorem invalidateForNew_dcSup {s : St} {fs1 : Fs.T} {dir name : Bytes} (hI : CInv s) (hS : DcSup s) (hd : CleanPath dir)
    (hn : NoSep name) {g : Option Fs.Entry → Option Fs.Entry} (hu : Fs.Upd s.fs (fsPath (joinName dir name)) g fs1) :
    DcSup (invalidateForNew { s with fs := fs1 } dir (joinName dir name)) := by
  refine dcSupD_new (name := name) hS hd (DcSubD.invalidate _ _) (coldD_invalidate_self hI.dci dir) fun q hq hx => ?_
  rw [← fsPath_joinName dir name hn] at hq
  exact (hu.ne _ hq).symm.trans hx

theorem renameOp_dcSup {s2 s3 : St} {d1 d2 : Node} {n1 n2 : Bytes} (heq : renameOp s2 d1 n1 d2 n2 = .ok s3) (h : CInv s2) (hS : DcSup s2)
    (hd2 : CleanPath d2.path) (hn2 : NoSep n2) : DcSup s3 := by
  obtain ⟨fs1, hrn, rfl⟩ := renameOp_ok heq
  intro c' hc' e he
  -- what survived the four invalidations: a listing of `s2`'s, not that of `d2`, none at or below the destination
  obtain ⟨c3, hc3, rfl⟩ := Option.map_eq_some_iff.mp hc'
  obtain ⟨c2, hc2, rfl⟩ := Option.map_eq_some_iff.mp hc3
  obtain ⟨c1, hc1, rfl⟩ := Option.map_eq_some_iff.mp hc2
  obtain ⟨c0, hc0, rfl⟩ := Option.map_eq_some_iff.mp hc1
  obtain ⟨he1, hk2⟩ := Lru.invalidatePrefix_mem he
  obtain ⟨he2, hkd2⟩ := Lru.invalidate_mem (Lru.inv_invalidate (h.dci c0 hc0) _) (Lru.invalidatePrefix_mem he1).1
  have hOK := hS c0 hc0 e (Lru.invalidate_mem (h.dci c0 hc0) he2).1
  refine hOK.mono fun x hx => rename_ex hrn _ (fun hpre => ?_) hx
  -- `fsPath e.key ++ [x]` at or below the destination: it is the destination and `e.key = d2`, or `e.key` is below
  have hb : fsPath (joinName d2.path n2) = fsPath d2.path ++ [n2] := fsPath_joinName d2.path n2 hn2
  rcases List.prefix_concat_iff.mp hpre with hsame | hbelow
  · exact hkd2 (fsPath_inj hOK.1 hd2 (List.append_inj_left' (hb.symm.trans hsame) rfl).symm)
  · rw [underPrefix_of_prefix (.child d2.path n2 hd2 hn2) hOK.1 hbelow] at hk2
    cases hk2

theorem dcStored_dcSup {s0 : St} {now : Nat} {p : Bytes} {names : List Bytes} (hS : DcSup s0) (hp : CleanPath p)
    (hinc : Fs.Increasing names) (hall : ∀ x, existsAt s0.fs (fsPath p ++ [x]) = true → x ∈ names) :
    DcSup (dcStored s0 now p names) := by
  intro c' hc' e he
  obtain ⟨c, hc, rfl⟩ := Option.map_eq_some_iff.mp hc'
  split at he
  · exact hS c hc e he
  · rcases Lru.putEntry_sub _ _ e he with rfl | h1
    · exact ⟨hp, fun _ hv => by cases hv; exact ⟨hinc, hall⟩⟩
    · exact hS c hc e h1

theorem readDir_names {s s' : St} {now : Nat} {d : Node} {r : Except Fs.Errno (List Node)} (heq : readDir s now d = (s', r))
    (hI : CInv s) (hS : SupAt s d.path) (hd : CleanPath d.path) :
    (s' = dcTouched s now d.path ∧ ∃ e, r = .error e) ∨
    ∃ S names, CInv S ∧ (DcSup s → DcSup S) ∧ S.fs = s.fs ∧ s' = (lookupEach S now d.path names).1 ∧
      r = .ok (lookupEach S now d.path names).2 ∧ Fs.Increasing names ∧
      ∀ x, existsAt s.fs (fsPath d.path ++ [x]) = true → x ∈ names := by
  have hIT := dcTouched_cinv hI now d.path
  have hST (h : DcSup s) := dcSup_of_safe h (dcTouched_safe s now d.path)
  cases heq ▸ readDir_run s now d with
  | cached hdc hg hr =>
    obtain ⟨e, he, hk, hv⟩ := Lru.get_hit_entry hg
    cases hr
    exact .inr ⟨_, _, hIT, hST, rfl, rfl, rfl, hk ▸ (hS _ hdc e he hk).2 _ hv⟩
  | failed _ hr => cases hr; exact .inl ⟨rfl, _, rfl⟩
  | listed hrd hr =>
    cases hr
    have hinc := readdir_names_increasing hI.wf hrd
    have hall := readdir_names_children hI.wf hrd
    exact .inr ⟨dcStored (dcTouched s now d.path) now d.path _, _,
      dcStored_cinv hIT .., fun h => dcStored_dcSup (hST h) hd hinc hall, rfl, rfl, rfl, hinc, hall⟩

theorem readDir_dcSup {s s' : St} {now : Nat} {d : Node} {r : Except Fs.Errno (List Node)} (heq : readDir s now d = (s', r))
    (hI : CInv s) (hS : DcSup s) (hd : CleanPath d.path) : DcSup s' := by
  rcases readDir_names heq hI (hS.at _) hd with ⟨rfl, _⟩ | ⟨S, names, _, hSS, _, rfl, _⟩
  · exact dcSup_of_safe hS (dcTouched_safe ..)
  · exact dcSup_of_safe (hSS hS) (lookupEach_acOnly ..).safe

/-- `DcSup` needs `CInv` (unique clean keys, a well-formed backend), so the invariant the blocks keep is the pair -/
theorem dcSup_blocks : Blocks fun s => CInv s ∧ DcSup s :=
  have safe {s s' : St} (h : CInv s ∧ DcSup s) (hc : CInv s') (hs : Safe s s') : CInv s' ∧ DcSup s' :=
    ⟨hc, dcSup_of_safe h.2 hs⟩
  { clean := fun h => h.1.hcl
    getAttr := fun h hnc hg => safe h (cinv_blocks.getAttr h.1 hnc hg) (getAttr_acOnly hg).safe
    lookupPath := fun h hp hl => safe h (cinv_blocks.lookupPath h.1 hp hl) (lookupPath_acOnly hl).safe
    allocate := fun node h hp => safe h (cinv_blocks.allocate node h.1 hp) (.of_eq rfl rfl)
    readDir := fun h hnc hrd =>
      ⟨⟨(cinv_blocks.readDir h.1 hnc hrd).1, readDir_dcSup hrd h.1 h.2 hnc⟩, (cinv_blocks.readDir h.1 hnc hrd).2⟩
    refreshEach := fun now _ h hl => safe h (cinv_blocks.refreshEach now h.1 hl) (refreshEach_acOnly ..).safe
    wf := fun h => h.1.wf
    unseen := fun u h => safe h (u.cinv h.1) u.safe
    acInv := fun p h => safe h (acInv_cinv h.1 p) (.of_eq rfl rfl)
    dcInv := fun p h => safe h (dcInv_cinv h.1 p) ⟨.invalidate _ _, fun _ => id⟩
    upd := fun h hp hu hg => safe h (cinv_acInv_at h.1 hp hu) ⟨.refl _, upd_ex hu hg⟩
    make := fun h hd hn hu => ⟨cinv_made h.1 (.child _ _ hd hn) hu _, invalidateForNew_dcSup h.1 h.2 hd hn hu⟩
    renameOp := fun h hd1 hd2 hn1 hn2 hop =>
      ⟨cinv_blocks.renameOp h.1 hd1 hd2 hn1 hn2 hop, renameOp_dcSup hop h.1 h.2 hd2 hn2⟩ }

theorem procReaddir_dcSup (s : St) (c : Ctx) (args : Bytes) (h : CInv s) (hS : DcSup s) : DcSup (procReaddir s c args).1 :=
  (dcSup_blocks.procReaddir_keeps s c args ⟨h, hS⟩).2

theorem handle_dcSup (s : St) (c : Ctx) (prog vers proc : Nat) (args : Bytes) (h : CInv s) (hS : DcSup s) :
    DcSup (handle s c prog vers proc args).1 := (dcSup_blocks.handle_keeps s c prog vers proc args ⟨h, hS⟩).2

theorem runReqs_dcSup (s : St) (rs : List Req) (h : CInv s) (hS : DcSup s) : DcSup (runReqs s rs) :=
  (dcSup_blocks.runReqs_keeps s rs ⟨h, hS⟩).2

/-- C02 / C26: whatever the directory cache holds of the directory (under the invariant for its key), the node list of
    a READDIR is the backend's directory in name order, restricted to the names the listing loop accepts — the cache is
    invisible. (Where the path holds no directory both sides are empty: nothing exists below it.) -/
theorem readDir_is_backend_at (s : St) (now : Nat) (d : Node) (nodes : List Node) (hI : CInv s) (hS : SupAt s d.path)
    (hd : CleanPath d.path) (h : (readDir s now d).2 = .ok nodes) :
    nodes.map (·.path) =
      ((((Fs.sortByName (Fs.children s.fs (fsPath d.path))).map (·.1)).filter (listable d.path)).map (joinName d.path)) := by
  obtain ⟨_, _, he⟩ | ⟨S, names, hIS, _, hfs, _, hr, hinc, hall⟩ :=
    readDir_names (s' := (readDir s now d).1) (r := (readDir s now d).2) rfl hI hS hd
  · cases h.symm.trans he
  cases h.symm.trans hr
  rw [lookupEach_filter S now d.path names hIS hd, hfs]
  congr 1
  -- two increasing lists with the same members
  refine Fs.Increasing.ext (hinc.filter _) ((Fs.sorted_children_increasing hI.wf _).filter _) fun x => ?_
  simp only [List.mem_filter, present_iff, mem_children_iff hI.wf]
  exact ⟨fun ⟨_, hl, hex⟩ => ⟨hex, hl⟩, fun ⟨hex, hl⟩ => ⟨hall x hex, hl, hex⟩⟩

/-- after any history: `DcSup` is kept by every request -/
theorem readDir_is_backend (s : St) (now : Nat) (d : Node) (nodes : List Node) (hI : CInv s) (hS : DcSup s)
    (hd : CleanPath d.path) (h : (readDir s now d).2 = .ok nodes) :
    nodes.map (·.path) =
      ((((Fs.sortByName (Fs.children s.fs (fsPath d.path))).map (·.1)).filter (listable d.path)).map (joinName d.path)) :=
  readDir_is_backend_at s now d nodes hI (hS.at _) hd h

/-- C26 / C02: when the directory cache cannot answer (none configured, or no entry for the directory, as after each of the
    server's own mutations in it) -/
theorem readDir_lists_backend (s : St) (now : Nat) (d : Node) (nodes : List Node) (hI : CInv s) (hcold : DcCold s d.path)
    (hd : CleanPath d.path) (e : Fs.Entry) (hwalk : Fs.walk s.fs (fsPath d.path) = .ok e) (hk : e.kind = .dir)
    (h : (readDir s now d).2 = .ok nodes) :
    nodes.map (·.path) =
      ((((Fs.sortByName (Fs.children s.fs (fsPath d.path))).map (·.1)).filter (listable d.path)).map (joinName d.path)) :=
  readDir_is_backend_at s now d nodes hI hcold.supAt hd h

theorem readDir_complete (s : St) (now : Nat) (d : Node) (nodes : List Node) (hI : CInv s) (hS : DcSup s) (hd : CleanPath d.path)
    (h : (readDir s now d).2 = .ok nodes) (x : Bytes) (hl : listable d.path x = true)
    (hx : existsAt s.fs (fsPath d.path ++ [x]) = true) : joinName d.path x ∈ nodes.map (·.path) := by
  rw [readDir_is_backend s now d nodes hI hS hd h]
  exact List.mem_map_of_mem (List.mem_filter.mpr ⟨(mem_children_iff hI.wf _ x).mpr hx, hl⟩)

theorem readDir_paths (s : St) (now : Nat) (d : Node) (nodes : List Node) (h : (readDir s now d).2 = .ok nodes) :
    ∀ nd ∈ nodes, ∃ x, True ∧ listable d.path x = true ∧ nd.path = joinName d.path x := by
  -- a node is what Lookup returned for the path of a name the loop did not skip
  have key (S : St) (names : List Bytes) : ∀ nd ∈ (lookupEach S now d.path names).2,
      ∃ x, True ∧ listable d.path x = true ∧ nd.path = joinName d.path x :=
    (lookupEach_induct (P := fun _ => True) (fun {_ x _ _ _} hx hp hl _ => ⟨trivial, fun node hr => ⟨x, trivial,
      by unfold listable; rw [decide_eq_false hx, hp]; rfl,
      by rw [hr] at hl; rw [lookupPath_path hl, sanitize_some hp]⟩⟩) S names trivial).2
  cases readDir_run s now d with
  | cached _ _ hr | listed _ hr => rw [hr] at h; cases h; exact key _ _
  | failed _ hr => rw [hr] at h; cases h

def listing (fs : Fs.T) (p : Bytes) : List Bytes :=
  ((Fs.sortByName (Fs.children fs (fsPath p))).map (·.1)).filter (listable p)

def expectedEnts (dir : Bytes) : Nat → List Bytes → List Rfc.DirEnt
  | _, [] => []
  | i, x :: xs => { fileid := fnv64 (joinName dir x), name := x, cookie := i + 1 } :: expectedEnts dir (i + 1) xs

theorem expectedEnts_take (dir : Bytes) (i k : Nat) (l : List Bytes) :
    (expectedEnts dir i l).take k = expectedEnts dir i (l.take k) := by
  induction l generalizing i k with
  | nil => simp [expectedEnts]
  | cons x xs ih =>
    cases k with
    | zero => simp [expectedEnts]
    | succ k => simp [expectedEnts, ih]

theorem expectedEnts_drop (dir : Bytes) (i k : Nat) (l : List Bytes) :
    (expectedEnts dir i l).drop k = expectedEnts dir (i + k) (l.drop k) := by
  induction l generalizing i k with
  | nil => simp [expectedEnts]
  | cons x xs ih =>
    cases k with
    | zero => rfl
    | succ k => rw [expectedEnts, List.drop_succ_cons, List.drop_succ_cons, ih, Nat.add_right_comm, Nat.add_assoc]

theorem expectedEnts_names (dir : Bytes) (i : Nat) (l : List Bytes) : (expectedEnts dir i l).map (·.name) = l := by
  induction l generalizing i with
  | nil => rfl
  | cons x xs ih => simp [expectedEnts, ih]

theorem numbered_eq_expected {dir : Bytes} {names : List Bytes} {nodes : List Node} (i : Nat)
    (hp : nodes.map (·.path) = names.map (joinName dir)) (hl : ∀ x ∈ names, listable dir x = true)
    (hf : ∀ nd ∈ nodes, nd.attrs.fileId = fnv64 nd.path) : numbered i nodes = expectedEnts dir i names := by
  induction nodes generalizing names i with
  | nil => cases names with
    | nil => rfl
    | cons => cases hp
  | cons nd nds ih => cases names with
    | nil => cases hp
    | cons x xs =>
      obtain ⟨hx, hxs⟩ := List.cons.inj hp
      have hx : nd.path = joinName dir x := hx
      rw [numbered, expectedEnts, ih (i + 1) hxs (fun y hy => hl y (List.mem_cons_of_mem _ hy))
        (fun n hn => hf n (List.mem_cons_of_mem _ hn)), hf nd (List.mem_cons_self ..), hx,
        baseName_joinName dir x (listable_noSep (hl x (List.mem_cons_self ..)))]

/-- the entries READDIR and READDIRPLUS page over are a function of the backend alone -/
theorem readDir_numbered {s s1 : St} {now : Nat} {n : Node} {nodes : List Node} (hI : CInv s) (hS : SupAt s n.path)
    (hcl : CleanPath n.path) (h : readDir s now n = (s1, .ok nodes)) :
    numbered 0 nodes = expectedEnts n.path 0 (listing s.fs n.path) :=
  numbered_eq_expected 0 (readDir_is_backend_at s now n nodes hI hS hcl (by rw [h])) (fun _ hx => (List.mem_filter.mp hx).2)
    fun nd hnd => ((readDir_cinv h hI hcl).2 nodes rfl nd hnd).2

/-- C26, one READDIR page completely: the entries of the backend's listing from position `ck` on — name, fileid = fnv64
    of the entry's path, cookies ck+1, ck+2, … — and with eof all of them -/
theorem procReaddir_page_entries (s s' : St) (c : Ctx) (args : Bytes) (a : Option Rfc.Fattr) (verf : Bytes)
    (ents : List Rfc.DirEnt) (eof : Bool) (hI : CInv s) (hd : Nat) (ck : Nat) (r1 r2 : Bytes) (n : Node) (hS : SupAt s n.path)
    (hfh : decFh' s args = some (hd, r1)) (hck : decU64 r1 = some (ck, r2)) (hn : nodeOf s hd = some n)
    (h : procReaddir s c args = (s', .res ⟨0, .readdirOk a verf ents eof⟩)) :
    ∃ k, ents = expectedEnts n.path ck (((listing s.fs n.path).drop ck).take k) ∧
      (eof = true → ents = expectedEnts n.path ck ((listing s.fs n.path).drop ck)) := by
  obtain ⟨s1, nodes, k, hrd, hk, hall⟩ := procReaddir_ok hfh hck hn h
  rw [readDir_numbered hI hS (hI.node hn) hrd, expectedEnts_drop, Nat.zero_add] at hk hall
  exact ⟨k, by rw [hk, expectedEnts_take], hall⟩

/-- C26, the names of a page: a slice of the backend's listing that starts at the cookie; with eof it reaches the end -/
theorem procReaddir_page (s s' : St) (c : Ctx) (args : Bytes) (a : Option Rfc.Fattr) (verf : Bytes)
    (ents : List Rfc.DirEnt) (eof : Bool) (hI : CInv s) (hS : DcSup s) (hd : Nat) (ck : Nat) (r1 r2 : Bytes) (n : Node)
    (hfh : decFh' s args = some (hd, r1)) (hck : decU64 r1 = some (ck, r2)) (hn : nodeOf s hd = some n)
    (h : procReaddir s c args = (s', .res ⟨0, .readdirOk a verf ents eof⟩)) :
    ∃ k, ents.map (·.name) = ((listing s.fs n.path).drop ck).take k ∧
      (eof = true → ents.map (·.name) = (listing s.fs n.path).drop ck) := by
  obtain ⟨k, hk, hall⟩ := procReaddir_page_entries s s' c args a verf ents eof hI hd ck r1 r2 n (hS.at _) hfh hck hn h
  exact ⟨k, by rw [hk, expectedEnts_names], fun he => by rw [hall he, expectedEnts_names]⟩

/-- C26 / C02, a whole listing in one reply: the page from cookie 0 with eof -/
theorem procReaddir_whole (s s' : St) (c : Ctx) (args : Bytes) (a : Option Rfc.Fattr) (verf : Bytes)
    (ents : List Rfc.DirEnt) (hI : CInv s) (hS : DcSup s) (hd : Nat) (r1 r2 : Bytes) (n : Node)
    (hfh : decFh' s args = some (hd, r1)) (hck : decU64 r1 = some (0, r2)) (hn : nodeOf s hd = some n)
    (h : procReaddir s c args = (s', .res ⟨0, .readdirOk a verf ents true⟩)) :
    ents.map (·.name) = ((Fs.sortByName (Fs.children s.fs (fsPath n.path))).map (·.1)).filter (listable n.path) :=
  let ⟨_, _, hall⟩ := procReaddir_page s s' c args a verf ents true hI hS hd 0 r1 r2 n hfh hck hn h
  hall rfl

theorem procReaddir_whole_complete (s s' : St) (c : Ctx) (args : Bytes) (a : Option Rfc.Fattr) (verf : Bytes)
    (ents : List Rfc.DirEnt) (hI : CInv s) (hS : DcSup s) (hd : Nat) (r1 r2 : Bytes) (n : Node)
    (hfh : decFh' s args = some (hd, r1)) (hck : decU64 r1 = some (0, r2)) (hn : nodeOf s hd = some n)
    (h : procReaddir s c args = (s', .res ⟨0, .readdirOk a verf ents true⟩)) (x : Bytes)
    (hl : listable n.path x = true) (hx : existsAt s.fs (fsPath n.path ++ [x]) = true) : x ∈ ents.map (·.name) := by
  rw [procReaddir_whole s s' c args a verf ents hI hS hd r1 r2 n hfh hck hn h]
  exact List.mem_filter.mpr ⟨(mem_children_iff hI.wf _ x).mpr hx, hl⟩

theorem procReaddirplus_whole (s s' : St) (c : Ctx) (args : Bytes) (a : Option Rfc.Fattr) (verf : Bytes)
    (ents : List Rfc.DirEntPlus) (hI : CInv s) (hS : DcSup s) (hd : Nat) (r1 r2 : Bytes) (n : Node)
    (hfh : decFh' s args = some (hd, r1)) (hck : decU64 r1 = some (0, r2)) (hn : nodeOf s hd = some n)
    (h : procReaddirplus s c args = (s', .res ⟨0, .readdirplusOk a verf ents true⟩)) :
    ents.map (·.name) = ((Fs.sortByName (Fs.children s.fs (fsPath n.path))).map (·.1)).filter (listable n.path) := by
  obtain ⟨s1, nodes, _, hrd, _, hall⟩ := procReaddirplus_ok hfh hck hn h
  rw [← stripPlus_names, hall rfl, readDir_numbered hI (hS.at _) (hI.node hn) hrd, List.drop_zero, expectedEnts_names]
  rfl

end Server
end Absnfs
