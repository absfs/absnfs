/-
  Durable: the volatile/durable split of one regular file of a crash-prone backend (what `refbackend` with
  Sync/Crash implements), and what the server's WRITE (WriteAt, then Sync before the reply) and COMMIT (Sync)
  make of it.
-/
import Absnfs.Fs
namespace Absnfs
namespace Durable

structure File where
  data : Bytes       -- what reads see
  durable : Bytes    -- what a crash leaves
  deriving DecidableEq, Repr

/-- backend operations on the file -/
inductive Op where
  | writeAt (off : Nat) (w : Bytes)
  | truncate (n : Nat)
  | sync
  deriving Repr

def step (f : File) : Op → File
  | .writeAt off w => { f with data := Fs.writeBytes f.data off w }
  | .truncate n => { f with data := Fs.truncBytes f.data n }
  | .sync => { f with durable := f.data }

def run (f : File) (ops : List Op) : File := ops.foldl step f

/-- a crash discards everything not yet synced -/
def crash (f : File) : File := { f with data := f.durable }

def isSync : Op → Bool
  | .sync => true
  | _ => false

theorem run_append (f : File) (a b : List Op) : run f (a ++ b) = run (run f a) b :=
  List.foldl_append ..

theorem step_durable (f : File) {o : Op} (h : isSync o = false) : (step f o).durable = f.durable := by
  cases o with
  | sync => exact nomatch h
  | _ => rfl

theorem durable_unchanged_without_sync (f : File) (ops : List Op) (h : ∀ o ∈ ops, isSync o = false) :
    (run f ops).durable = f.durable := by
  induction ops generalizing f with
  | nil => rfl
  | cons o os ih =>
    show (run (step f o) os).durable = _
    rw [ih _ fun x hx => h x (List.mem_cons_of_mem _ hx), step_durable f (h o (List.mem_cons_self ..))]

theorem crash_restores_last_sync (f : File) (pre post : List Op) (h : ∀ o ∈ post, isSync o = false) :
    (crash (run f (pre ++ [.sync] ++ post))).data = (run f pre).data := by
  rw [run_append, run_append]
  exact durable_unchanged_without_sync _ post h

/-- the server's WRITE as a backend sequence: WriteAt then Sync (fact `writeSyncsBeforeAck`); the reply is sent after -/
def srvWrite (off : Nat) (w : Bytes) : List Op := [.writeAt off w, .sync]
/-- the server's COMMIT: Sync (fact `commitSyncs`) -/
def srvCommit : List Op := [.sync]

/-- later synced operations are the only way acknowledged bytes change: a crash never brings back older data
    than the last acknowledged state -/
theorem crash_after_sync_is_identity (f : File) (ops : List Op) :
    crash (run f (ops ++ [.sync])) = run f (ops ++ [.sync]) := by
  rw [run_append]
  rfl

end Durable
end Absnfs
