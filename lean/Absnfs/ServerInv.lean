/-
  ServerInv: the invariant that makes the attribute cache transparent (C02), and its preservation by the
  read-side building blocks. `CInv s` says: every attribute-cache entry agrees with the backend (`AcCoherent`), the
  cache's keys are unique (`lru`) and clean paths (`keys`), the handle table holds clean paths (`hcl`) and satisfies its
  own invariant (`htab`), the backend model is well-formed (`wf`), and the directory cache, if there is one, satisfies
  `Lru.Inv` too (`dci`). Removing cache entries never hurts; an entry may stay across a backend change when what Lstat
  shows at its path (`Fs.viewAt`) is unchanged (`cinv_step`).
-/
import Absnfs.ServerCoherent
import Absnfs.ServerPaths
namespace Absnfs
namespace Server

def DcI (d : Option (Lru.Cache (List Bytes))) : Prop := ∀ c, d = some c → Lru.Inv c

theorem DcI.map {d : Option (Lru.Cache (List Bytes))} (h : DcI d) {f : Lru.Cache (List Bytes) → Lru.Cache (List Bytes)}
    (hf : ∀ c, Lru.Inv c → Lru.Inv (f c)) : DcI (d.map f) := by
  intro c hc
  cases d with
  | none => cases hc
  | some c0 => cases hc; exact hf c0 (h c0 rfl)

theorem DcI.map_invalidate {d : Option (Lru.Cache (List Bytes))} (h : DcI d) (p : Bytes) :
    DcI (d.map fun c => Lru.invalidate c p) := h.map fun _ hI => Lru.inv_invalidate hI p

theorem DcI.map_invalidatePrefix {d : Option (Lru.Cache (List Bytes))} (h : DcI d) (p : Bytes) :
    DcI (d.map fun c => Lru.invalidatePrefix c p) := h.map fun _ hI => Lru.inv_invalidatePrefix hI p

/-- `hdm` is there because `Handles.inv_alloc` needs a positive default table size -/
structure CInv (s : St) : Prop where
  coh : AcCoherent s
  lru : Lru.Inv s.ac
  keys : ∀ e ∈ s.ac.entries, CleanPath e.key
  hcl : HandlesClean s
  wf : Fs.WF s.fs
  htab : Handles.Inv s.cfg.defaultMaxHandles s.hs
  hdm : 0 < s.cfg.defaultMaxHandles
  dci : DcI s.dc

theorem AcOnly.dcI {s s' : St} (h : AcOnly s s') (hI : CInv s) : DcI s'.dc := h.dc ▸ hI.dci

theorem entryOK_of_view {fs fs' : Fs.T} (hw : Fs.WF fs) (hw' : Fs.WF fs') (e : Lru.Entry Attrs)
    (hv : Fs.viewAt fs' (fsPath e.key) = Fs.viewAt fs (fsPath e.key)) (h : EntryOK fs e) : EntryOK fs' e := by
  unfold EntryOK at h ⊢
  cases hval : e.val with
  | some a => rw [hval] at h; exact h.of_view hw' hv
  | none => rw [hval] at h; exact h.elim fun _ herr => Fs.lstat_err_of_view (hv ▸ Fs.lstat_err_view hw herr)

/-- discharges `DcI s'.dc` when `s'` is a known state reached by directory-cache invalidations (or none) -/
macro "dci_tac" : tactic =>
  `(tactic| (try simp only [dcInv, dcInvPrefix, acInv, acInvNegIn, acInvPrefix, acPut, acPutNeg, acGet, invalidateForNew, updNodeAt, setNode, rememberExclusive];
             repeat (first | apply DcI.map_invalidate | apply DcI.map_invalidatePrefix);
             first | assumption | (apply CInv.dci; assumption)))

theorem cinv_step {s s' : St} (h : CInv s) (hhs : s'.hs = s.hs) (hw : Fs.WF s'.fs) (hlru : Lru.Inv s'.ac)
    (hsub : ∀ e ∈ s'.ac.entries, e ∈ s.ac.entries ∧
      Fs.viewAt s'.fs (fsPath e.key) = Fs.viewAt s.fs (fsPath e.key))
    (hcfg : s'.cfg = s.cfg := by rfl) (hdci : DcI s'.dc := by dci_tac) : CInv s' where
  coh := fun e he => entryOK_of_view h.wf hw e (hsub e he).2 (h.coh e (hsub e he).1)
  lru := hlru
  keys := fun e he => h.keys e (hsub e he).1
  hcl := by intro x hx; rw [hhs] at hx; exact h.hcl x hx
  wf := hw
  htab := by rw [hcfg, hhs]; exact h.htab
  hdm := by rw [hcfg]; exact h.hdm
  dci := hdci

theorem cinv_congr {s s' : St} (h : CInv s) (h1 : s'.fs = s.fs) (h2 : s'.ac = s.ac) (h3 : s'.hs = s.hs)
    (hcfg : s'.cfg = s.cfg := by rfl) (hdci : DcI s'.dc := by dci_tac) : CInv s' := by
  refine cinv_step h h3 (by rw [h1]; exact h.wf) (by rw [h2]; exact h.lru) ?_ hcfg hdci
  intro e he
  rw [h2] at he
  exact ⟨he, by rw [h1]⟩

theorem acGet_cinv {s : St} (h : CInv s) (now : Nat) (p : Bytes) : CInv (acGet s now p).1 :=
  cinv_step h rfl h.wf (Lru.inv_get h.lru now p) (fun e he => ⟨Lru.get_sub s.ac now p e he, rfl⟩)

theorem acInv_cinv {s : St} (h : CInv s) (p : Bytes) : CInv (acInv s p) :=
  cinv_step h rfl h.wf (Lru.inv_invalidate h.lru p) (fun e he => ⟨(Lru.invalidate_mem h.lru he).1, rfl⟩)

theorem acInvNegIn_cinv {s : St} (h : CInv s) (d : Bytes) : CInv (acInvNegIn s d) :=
  cinv_step h rfl h.wf (Lru.inv_invalidateNegativeInDir h.lru d) (fun e he => ⟨Lru.invalidateNegativeInDir_mem he, rfl⟩)

theorem acInvPrefix_cinv {s : St} (h : CInv s) (p : Bytes) : CInv (acInvPrefix s p) :=
  cinv_step h rfl h.wf (Lru.inv_invalidatePrefix h.lru p) (fun e he => ⟨(Lru.invalidatePrefix_mem he).1, rfl⟩)

theorem dcInv_cinv {s : St} (h : CInv s) (p : Bytes) : CInv (dcInv s p) := cinv_congr h rfl rfl rfl
theorem dcInvPrefix_cinv {s : St} (h : CInv s) (p : Bytes) : CInv (dcInvPrefix s p) := cinv_congr h rfl rfl rfl

theorem acPut_cinv {s : St} (h : CInv s) (now : Nat) (p : Bytes) (a : Attrs) (hp : CleanPath p) (ha : MatchesLstat s.fs p a) :
    CInv (acPut s now p a) :=
  { h with
    coh := acPut_coherent s now p a h.coh ha
    lru := Lru.inv_put h.lru now p a
    keys := fun e he => (Lru.putEntry_sub s.ac _ e he).elim (fun h1 => h1 ▸ hp) (h.keys e) }

theorem acPutNeg_cinv {s : St} (h : CInv s) (now : Nat) (p : Bytes) (hp : CleanPath p)
    (he : ∃ err, Fs.lstat s.fs (fsPath p) = .error err) : CInv (acPutNeg s now p) :=
  { h with
    coh := acPutNeg_coherent s now p h.coh he
    lru := Lru.inv_putNegative h.lru now p
    keys := fun e hmem => by
      unfold acPutNeg Lru.putNegative at hmem
      split at hmem
      · exact (Lru.putEntry_sub s.ac _ e hmem).elim (fun h1 => h1 ▸ hp) (h.keys e)
      · exact h.keys e hmem }

theorem lookupPath_cinv {s s' : St} {now : Nat} {p : Bytes} {r : Except Fs.Errno Node} (heq : lookupPath s now p = (s', r))
    (h : CInv s) (hp : CleanPath p) : CInv s' := by
  have h1 := acGet_cinv h now p
  cases heq ▸ lookupPath_run s now p with
  | empty _ hr => cases hr; exact h
  | hit _ _ hr | neg _ _ hr => cases hr; exact h1
  | absent _ _ hl hr =>
    cases hr
    split
    · exact acPutNeg_cinv h1 now p hp ⟨_, hl⟩
    · exact h1
  | found _ _ hl hr => cases hr; exact acPut_cinv h1 now p _ hp ⟨_, hl, rfl, rfl, rfl, rfl⟩

theorem getAttr_cinv {s s' : St} {now : Nat} {n : Node} {r : Except Fs.Errno Attrs} (heq : getAttr s now n = (s', r))
    (h : CInv s) (hp : CleanPath n.path) : CInv s' := by
  have h1 := acGet_cinv h now n.path
  cases heq ▸ getAttr_run s now n with
  | failed _ hr => cases hr; exact h1
  | ok hl hr => cases hr; exact acPut_cinv h1 now n.path _ hp ⟨_, hl, rfl, rfl, rfl, rfl⟩

theorem getAttrOr_cinv' {s s' : St} {now : Nat} {n : Node} {d a : Attrs} (heq : getAttrOr s now n d = (s', a))
    (h : CInv s) (hp : CleanPath n.path) : CInv s' := by
  unfold getAttrOr at heq
  split at heq <;> (cases heq; exact getAttr_cinv ‹_› h hp)

theorem allocate_cinv {s : St} (h : CInv s) (n : Node) (hp : CleanPath n.path) : CInv (allocate s n).1 :=
  { h with
    hcl := allocate_clean s n h.hcl hp
    htab := Handles.inv_alloc _ _ h.hdm s.hs n.path (cleanPath_ne_nil hp) h.htab }

theorem allocate_cinv' {s s' : St} {n : Node} {fh : Nat} (heq : allocate s n = (s', fh)) (h : CInv s) (hp : CleanPath n.path) :
    CInv s' := by
  have := allocate_cinv h n hp; rw [heq] at this; exact this

theorem CInv.node {s : St} {hd : Nat} {n : Node} (h : CInv s) (hn : nodeOf s hd = some n) : CleanPath n.path :=
  nodeOf_clean h.hcl hn

theorem lookupEach_cinv (s : St) (now : Nat) (dir : Bytes) (names : List Bytes) (h : CInv s) (hd : CleanPath dir) :
    CInv (lookupEach s now dir names).1 ∧ NodesOK (lookupEach s now dir names).2 :=
  lookupEach_induct (P := CInv) (Q := fun n => CleanPath n.path ∧ n.attrs.fileId = fnv64 n.path)
    (fun {_ x p _ _} hx hp hl h1 =>
      have hpc : CleanPath p := sanitize_some hp ▸ .child dir x hd (listing_name_noSep x hx)
      ⟨lookupPath_cinv hl h1 hpc, fun node hr => by
        obtain ⟨hpath, _, _, _, _, _, hf⟩ := (lookupPath_sound h1.coh).1 node (hr ▸ hl)
        rw [hpath]; exact ⟨hpc, hf⟩⟩)
    s names h

theorem dcTouched_cinv {s : St} (h : CInv s) (now : Nat) (p : Bytes) : CInv (dcTouched s now p) :=
  cinv_congr h rfl rfl rfl rfl (h.dci.map fun _ hI => Lru.inv_get hI now p)

theorem dcStored_cinv {s : St} (h : CInv s) (now : Nat) (p : Bytes) (names : List Bytes) : CInv (dcStored s now p names) :=
  cinv_congr h rfl rfl rfl rfl (h.dci.map fun _ hI => by split; exact hI; exact Lru.inv_put hI now p names)

theorem readDir_cinv {s s' : St} {now : Nat} {d : Node} {r : Except Fs.Errno (List Node)} (heq : readDir s now d = (s', r))
    (h : CInv s) (hd : CleanPath d.path) : CInv s' ∧ ∀ nodes, r = .ok nodes → NodesOK nodes := by
  have ok {l : List Node} (hok : NodesOK l) : ∀ nodes, (.ok l : Except Fs.Errno _) = .ok nodes → NodesOK nodes :=
    fun _ hn => Except.ok.inj hn ▸ hok
  have hT := dcTouched_cinv h now d.path
  cases heq ▸ readDir_run s now d with
  | failed _ hr => cases hr; exact ⟨hT, nofun⟩
  | cached _ _ hr => cases hr; exact (lookupEach_cinv _ now d.path _ hT hd).imp_right ok
  | listed _ hr => cases hr; exact (lookupEach_cinv _ now d.path _ (dcStored_cinv hT ..) hd).imp_right ok

theorem refreshEach_cinv {s : St} (h : CInv s) (now : Nat) {l : List Node} (hl : NodesOK l) : CInv (refreshEach s now l).1 :=
  refreshEach_induct (fun n _ h => acGet_cinv h now n.path)
    (fun n i hn hi h => acPut_cinv h now n.path _ (hl n hn).1 ⟨i, hi, rfl, rfl, rfl, by exact (hl n hn).2⟩) h

end Server
end Absnfs
