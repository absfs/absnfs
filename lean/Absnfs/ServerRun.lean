/-
  ServerRun: the execution paths of the procedures of `Server`, walked once.

  Every procedure first decodes and checks its arguments and resolves its handle(s); a request that fails there is
  a `Refusal`: the state is untouched and the reply is a status with the procedure's empty failure body. A request
  that gets through runs a short chain of building blocks (`getAttr`, `lookupPath`, one backend operation with its
  invalidations, `allocate`). For each procedure `procX_run` says that its result is a refusal or one of the
  paths of `XRun` (MNT, which resolves no handle: one of `MntRun`), each path listing the equations of the blocks it
  went through and the result as an explicit term. The lemma files case on these paths instead of unfolding the
  procedures.

  The proofs all go the same way. For the long procedures `fun_cases procX` (the function's own case analysis) leaves
  one goal per leaf with the tests that led there in the context; the leaves inside the prologue are closed by `refusal`,
  the others by naming their path, where `‹_›` takes the equation of that step from the context. The short procedures
  (two or three tests, then a shared tail) are split by hand in the same manner.
-/
import Absnfs.Server
namespace Absnfs
namespace Server
open Rfc (Body)

/-- 4: the handlers write GARBAGE_ARGS, an accept_stat, as the status of an argument they cannot decode -/
def StatusOK (st : Nat) : Prop := st ∈ Rfc.nfsstat3 ∨ st = 4

instance (st : Nat) : Decidable (StatusOK st) := inferInstanceAs (Decidable (_ ∨ _))

theorem mapErrno_ne_zero (e : Fs.Errno) : mapErrno e ≠ 0 := by cases e <;> decide

theorem mapErrno_status (e : Fs.Errno) : StatusOK (mapErrno e) := by cases e <;> decide

theorem validateFilename_status (n : Bytes) :
    validateFilename n = 0 ∨ validateFilename n = 22 ∨ validateFilename n = 63 :=
  -- every branch of the chain of tests ends in one of the three
  have ite {c : Prop} [Decidable c] {a b : Nat} (ha : a = 0 ∨ a = 22 ∨ a = 63) (hb : b = 0 ∨ b = 22 ∨ b = 63) :
      (if c then a else b) = 0 ∨ (if c then a else b) = 22 ∨ (if c then a else b) = 63 := by split <;> assumption
  ite (.inr (.inl rfl)) (ite (.inr (.inr rfl)) (ite (.inr (.inl rfl)) (ite (.inr (.inl rfl)) (ite (.inr (.inl rfl)) (.inl rfl)))))

theorem validateFilename_statusOK (n : Bytes) : StatusOK (validateFilename n) := by
  rcases validateFilename_status n with h | h | h <;> rw [h] <;> decide

def Refusal (b : Body) (s : St) (r : St × Outcome) : Prop := ∃ st, st ≠ 0 ∧ StatusOK st ∧ r = (s, res st b)

theorem res_inj {s s' : St} {st st' : Nat} {b b' : Body} (h : (s, res st b) = (s', res st' b')) : s = s' ∧ st = st' ∧ b = b' :=
  ⟨(Prod.mk.inj h).1, Rfc.Res.mk.inj (Outcome.res.inj (Prod.mk.inj h).2)⟩

theorem Refusal.fst {b : Body} {s : St} {r : St × Outcome} (h : Refusal b s r) : r.1 = s := by
  obtain ⟨_, _, _, rfl⟩ := h; rfl

theorem Refusal.not_ok {b body : Body} {s s' : St} (h : Refusal b s (s', .res ⟨0, body⟩)) : False := by
  obtain ⟨_, hst, _, hr⟩ := h
  exact hst (congrArg Rfc.Res.status (Outcome.res.inj (Prod.mk.inj hr).2)).symm

theorem errno_not_ok {s' t : St} {e : Fs.Errno} {body b : Rfc.Body} (hr : (s', Outcome.res ⟨0, body⟩) = (t, res (mapErrno e) b)) :
    False := mapErrno_ne_zero e (res_inj hr).2.1.symm

/-- closes a refusal leaf: the status is a literal, an errno, or `validateFilename` of a name it rejected -/
macro "refusal" : tactic =>
  `(tactic| first
    | exact .refused ⟨_, by decide, by decide, rfl⟩
    | exact .refused ⟨_, mapErrno_ne_zero _, mapErrno_status _, rfl⟩
    | exact .refused ⟨_, ‹_›, validateFilename_statusOK _, rfl⟩)

-- what follows takes those of `s`, `c`, `args` it mentions first, in this order (`AttrThen s now n …`, `WriteRun s c hd …`)
variable (s : St) (c : Ctx) (args : Bytes)

inductive AttrThen (now : Nat) (n : Node) (fail : Body) (k : Attrs → Outcome) (r : St × Outcome) : Prop
  | failed {s1 e} (hg : getAttr s now n = (s1, .error e)) (hr : r = (s1, res (mapErrno e) fail))
  | ok {s1 a} (hg : getAttr s now n = (s1, .ok a)) (hr : r = (s1, k a))

theorem attrThen (now : Nat) (n : Node) (fail : Body) (k : Attrs → Outcome) :
    AttrThen s now n fail k
      (match getAttr s now n with
       | (s1, .error st) => (s1, res (mapErrno st) fail)
       | (s1, .ok a) => (s1, k a)) := by
  split
  · exact .failed ‹_› rfl
  · exact .ok ‹_› rfl

theorem AttrThen.of_ok {s s' : St} {now : Nat} {n : Node} {fail body : Body} {k : Attrs → Outcome}
    (ht : AttrThen s now n fail k (s', .res ⟨0, body⟩)) : ∃ a, getAttr s now n = (s', .ok a) ∧ k a = .res ⟨0, body⟩ := by
  cases ht with
  | failed _ hr => exact (errno_not_ok hr).elim
  | ok hg hr => cases (Prod.mk.inj hr).1; exact ⟨_, hg, (Prod.mk.inj hr).2.symm⟩

inductive GetattrCall (r : St × Outcome) : Prop
  | refused (h : Refusal .statusOnly s r)
  | run {hd r1 n}
      (hfh : decFh' s args = some (hd, r1)) (hn : nodeOf s hd = some n)
      (h : AttrThen s c.now n .statusOnly (fun a => res 0 (.attr (toFattr a))) r)

theorem procGetattr_run : GetattrCall s c args (procGetattr s c args) := by
  unfold procGetattr
  split
  · refusal
  split
  · refusal
  exact .run ‹_› ‹_› (attrThen ..)

inductive WithObjAttrCall (k : Rfc.Fattr → Body) (r : St × Outcome) : Prop
  | refused (h : Refusal (.postOp none) s r)
  | run {hd r1 n}
      (hfh : decFh' s args = some (hd, r1)) (hn : nodeOf s hd = some n)
      (h : AttrThen s c.now n (.postOp none) (fun a => res 0 (k (toFattr a))) r)

theorem withObjAttr_run (k : Rfc.Fattr → Body) : WithObjAttrCall s c args k (withObjAttr s c args k) := by
  unfold withObjAttr
  split
  · refusal
  split
  · refusal
  exact .run ‹_› ‹_› (attrThen ..)

inductive AccessCall (r : St × Outcome) : Prop
  | refused (h : Refusal (.postOp none) s r)
  | run {hd r1 mask r2 n}
      (hfh : decFh' s args = some (hd, r1)) (hmask : decU32 r1 = some (mask, r2)) (hn : nodeOf s hd = some n)
      (h : AttrThen s c.now n (.postOp none) (fun a => res 0 (.accessOk (some (toFattr a)) (accessReply a.perm (a.kind = .dir) s.cfg.readOnly c.uid c.gid c.aux a.uid a.gid mask))) r)

theorem procAccess_run : AccessCall s c args (procAccess s c args) := by
  unfold procAccess
  split
  · refusal
  split
  · refusal
  split
  · refusal
  exact .run ‹_› ‹_› ‹_› (attrThen ..)

inductive CommitCall (r : St × Outcome) : Prop
  | refused (h : Refusal (.wcc wcc0) s r)
  | run {hd r1 n}
      (hfh : decFh' s args = some (hd, r1)) (hn : nodeOf s hd = some n) (hro : s.cfg.readOnly = false)
      (h : AttrThen s c.now n (.wcc wcc0) (fun a => res 0 (.commitOk (wccOf a a) s.cfg.writeVerf)) r)

theorem procCommit_run : CommitCall s c args (procCommit s c args) := by
  unfold procCommit
  split
  · refusal
  split
  · refusal
  split
  · refusal
  split
  · refusal
  split
  · refusal
  exact .run ‹_› ‹_› (Bool.eq_false_iff.mpr ‹_›) (attrThen ..)

inductive ReadlinkCall (r : St × Outcome) : Prop
  | refused (h : Refusal (.postOp none) s r)
  | run {hd r1 n t}
      (hfh : decFh' s args = some (hd, r1)) (hn : nodeOf s hd = some n) (hlink : n.attrs.kind = .link)
      (hrl : Fs.readlink s.fs (fsPath n.path) = .ok t) (hdots : ¬ (t.head? ≠ some 47 ∧ targetHasDotDot t = true))
      (h : AttrThen s c.now n (.postOp none) (fun a => res 0 (.readlinkOk (some (toFattr a)) t)) r)

theorem procReadlink_run : ReadlinkCall s c args (procReadlink s c args) := by
  unfold procReadlink
  split
  · refusal
  split
  · refusal
  split
  · refusal
  split
  · refusal
  split
  · refusal
  exact .run ‹_› ‹_› (Decidable.not_not.mp ‹_›) ‹_› ‹_› (attrThen ..)

def readData (e : Fs.Entry) (off cnt : Nat) : Bytes :=
  if (Fs.infoOf e).size ≤ off then []
  else Fs.slice e.data off (min (if cnt > s.cfg.transfer then s.cfg.transfer else cnt) ((Fs.infoOf e).size - off))

inductive ReadCall (r : St × Outcome) : Prop
  | refused (h : Refusal (.postOp none) s r)
  | run {hd r1 off r2 cnt r3 n q e}
      (hfh : decFh' s args = some (hd, r1)) (hoff : decU64 r1 = some (off, r2)) (hcnt : decU32 r2 = some (cnt, r3))
      (hlt : off + cnt < u64Max) (hoffmax : off ≤ maxInt64) (hn : nodeOf s hd = some n)
      (hopen : Fs.openRead s.fs (fsPath n.path) = .ok (q, e))
      (h : AttrThen s c.now n (.postOp none) (fun a => res 0 (.readOk (some (toFattr a)) (readData s e off cnt).length (decide (off + (readData s e off cnt).length ≥ a.size)) (readData s e off cnt))) r)

theorem procRead_run : ReadCall s c args (procRead s c args) := by
  fun_cases procRead s c args
  iterate 7 refusal
  all_goals refine .run ‹_› ‹_› ‹_› (by omega) (by omega) ‹_› ‹_› ?_
  · exact .failed ‹_› rfl
  · exact .ok ‹_› rfl

inductive LookupRun (n : Node) (name : Bytes) (r : St × Outcome) : Prop
  | notDir (hk : n.attrs.kind ≠ .dir)
      (hr : r = lookupDirAttr s c.now n fun da => res 20 (.postOp (some (toFattr da))))
  | absent {s1 e} (hk : n.attrs.kind = .dir) (hl : lookupPath s c.now (joinName n.path name) = (s1, .error e))
      (hr : r = lookupDirAttr s1 c.now n fun da => res (mapErrno e) (.postOp (some (toFattr da))))
  | ok {s1 ln} (hk : n.attrs.kind = .dir) (hl : lookupPath s c.now (joinName n.path name) = (s1, .ok ln))
      (hr : r = lookupDirAttr (allocate s1 ln).1 c.now n fun da =>
        res 0 (.lookupOk (allocate s1 ln).2 (some (toFattr ln.attrs)) (some (toFattr da))))

inductive LookupCall (r : St × Outcome) : Prop
  | refused (h : Refusal (.postOp none) s r)
  | run {hd r1 name r2 n}
      (hfh : decFh' s args = some (hd, r1)) (hname : decStr s r1 = some (name, r2)) (hv : validateFilename name = 0)
      (hn : nodeOf s hd = some n) (h : LookupRun s c n name r)

theorem procLookup_run : LookupCall s c args (procLookup s c args) := by
  fun_cases procLookup s c args
  iterate 4 refusal
  all_goals refine .run ‹_› ‹_› (Decidable.not_not.mp ‹_›) ‹_› ?_
  · exact .notDir ‹_› rfl
  · exact .absent (Decidable.not_not.mp ‹_›) ‹_› rfl
  · exact .ok (Decidable.not_not.mp ‹_›) ‹_› (by rw [‹allocate _ _ = _›])

def mntBad (p : Bytes) : Nat := if p = [47] then 0 else firstBadComponent (Fs.applyTarget [] p)

inductive MntRun (r : St × Outcome) : Prop
  | garbage (hd : decStr s args = none) (hr : r = (s, .garbageArgs))
  | relative {raw r1} (hd : decStr s args = some (raw, r1)) (hh : raw.head? ≠ some 47) (hr : r = (s, res 2 .statusOnly))
  | badName {raw r1} (hd : decStr s args = some (raw, r1)) (hb : mntBad (cleanAbs raw) ≠ 0)
      (hr : r = (s, res (mntBad (cleanAbs raw)) .statusOnly))
  | absent {raw r1 s1 e} (hd : decStr s args = some (raw, r1)) (hl : lookupPath s c.now (cleanAbs raw) = (s1, .error e))
      (hr : r = (s1, res 2 .statusOnly))
  | ok {raw r1 s1 node} (hd : decStr s args = some (raw, r1)) (hl : lookupPath s c.now (cleanAbs raw) = (s1, .ok node))
      (hr : r = ((allocate s1 node).1, res 0 (.mntOk (encU64 (allocate s1 node).2) [1])))

theorem procMnt_run : MntRun s c args (procMnt s c args) := by
  unfold procMnt
  split
  · exact .garbage ‹_› rfl
  split
  · exact .relative ‹_› ‹_› rfl
  change MntRun s c args (if mntBad (cleanAbs _) ≠ 0 then (s, res (mntBad (cleanAbs _)) .statusOnly) else _)
  split
  · exact .badName ‹_› ‹_› rfl
  split
  · exact .absent ‹_› ‹_› rfl
  · exact .ok ‹_› ‹_› rfl

/-- `maxReplySize` of handleReaddir and handleReaddirplus: a count that cannot hold an empty listing is raised -/
def dirLimit (minReply count : Nat) : Nat := if count < dirListHeader + dirListTrailer then minReply else count

inductive ReaddirRun (n : Node) (cookie : Nat) (verf : Bytes) (count : Nat) (r : St × Outcome) : Prop
  | readFailed {s1 e} (hrd : readDir s c.now n = (s1, .error e)) (hr : r = (s1, res (mapErrno e) (.postOp none)))
  | attrFailed {s1 nodes s2 e} (hrd : readDir s c.now n = (s1, .ok nodes)) (hg : getAttr s1 c.now n = (s2, .error e))
      (hr : r = (s2, res (mapErrno e) (.postOp none)))
  | tooSmall {s1 nodes s2 a} (hrd : readDir s c.now n = (s1, .ok nodes)) (hg : getAttr s1 c.now n = (s2, .ok a))
      (hf : fillDir (dirLimit minReaddirReply count) cookie 0 dirListHeader 0 nodes = .tooSmall)
      (hr : r = (s2, res 10005 (.postOp none)))
  | ok {s1 nodes s2 a ents lim} (hrd : readDir s c.now n = (s1, .ok nodes)) (hg : getAttr s1 c.now n = (s2, .ok a))
      (hf : fillDir (dirLimit minReaddirReply count) cookie 0 dirListHeader 0 nodes = .done ents lim)
      (hr : r = (s2, res 0 (.readdirOk (some (toFattr a)) verf ents (!lim))))

inductive ReaddirCall (r : St × Outcome) : Prop
  | refused (h : Refusal (.postOp none) s r)
  | run {hd r1 cookie r2 verf r3 count r4 n}
      (hfh : decFh' s args = some (hd, r1)) (hcookie : decU64 r1 = some (cookie, r2))
      (hverf : take? 8 r2 = some (verf, r3)) (hcount : decU32 r3 = some (count, r4)) (hn : nodeOf s hd = some n)
      (hdir : n.attrs.kind = .dir) (h : ReaddirRun s c n cookie verf count r)

theorem procReaddir_run : ReaddirCall s c args (procReaddir s c args) := by
  fun_cases procReaddir s c args
  iterate 6 refusal
  all_goals refine .run ‹_› ‹_› ‹_› ‹_› ‹_› (Decidable.not_not.mp ‹_›) ?_
  · exact .readFailed ‹_› rfl
  · exact .attrFailed ‹_› ‹_› rfl
  · exact .tooSmall ‹_› ‹_› ‹_› rfl
  · exact .ok ‹_› ‹_› ‹_› rfl

inductive ReaddirplusRun (n : Node) (cookie : Nat) (verf : Bytes) (maxcount : Nat) (r : St × Outcome) : Prop
  | readFailed {s1 e} (hrd : readDir s c.now n = (s1, .error e)) (hr : r = (s1, res (mapErrno e) (.postOp none)))
  | attrFailed {s1 nodes0 s3 e} (hrd : readDir s c.now n = (s1, .ok nodes0))
      (hg : getAttr (refreshEach s1 c.now nodes0).1 c.now n = (s3, .error e))
      (hr : r = (s3, res (mapErrno e) (.postOp none)))
  | tooSmall {s1 nodes0 s3 a s4} (hrd : readDir s c.now n = (s1, .ok nodes0))
      (hg : getAttr (refreshEach s1 c.now nodes0).1 c.now n = (s3, .ok a))
      (hf : fillDirPlus (dirLimit minReaddirplusReply maxcount) cookie s3 0 dirListHeader 0 (refreshEach s1 c.now nodes0).2
              = (s4, .tooSmall))
      (hr : r = (s4, res 10005 (.postOp none)))
  | ok {s1 nodes0 s3 a s4 ents lim} (hrd : readDir s c.now n = (s1, .ok nodes0))
      (hg : getAttr (refreshEach s1 c.now nodes0).1 c.now n = (s3, .ok a))
      (hf : fillDirPlus (dirLimit minReaddirplusReply maxcount) cookie s3 0 dirListHeader 0 (refreshEach s1 c.now nodes0).2
              = (s4, .done ents lim))
      (hr : r = (s4, res 0 (.readdirplusOk (some (toFattr a)) verf ents (!lim))))

inductive ReaddirplusCall (r : St × Outcome) : Prop
  | refused (h : Refusal (.postOp none) s r)
  | run {hd r1 cookie r2 verf r3 dircount r4 maxcount r5 n}
      (hfh : decFh' s args = some (hd, r1)) (hcookie : decU64 r1 = some (cookie, r2))
      (hverf : take? 8 r2 = some (verf, r3)) (hdircount : decU32 r3 = some (dircount, r4))
      (hmaxcount : decU32 r4 = some (maxcount, r5)) (hn : nodeOf s hd = some n) (hdir : n.attrs.kind = .dir)
      (h : ReaddirplusRun s c n cookie verf maxcount r)

theorem procReaddirplus_run : ReaddirplusCall s c args (procReaddirplus s c args) := by
  unfold procReaddirplus
  split
  · refusal
  split
  · refusal
  split
  · refusal
  split
  · refusal
  split
  · refusal
  split
  · refusal
  split
  · refusal
  refine .run ‹_› ‹_› ‹_› ‹_› ‹_› ‹_› (Decidable.not_not.mp ‹_›) ?_
  split
  · exact .readFailed ‹_› rfl
  simp only
  split
  · exact .attrFailed ‹_› ‹_› rfl
  split
  · exact .tooSmall ‹_› ‹_› ‹_› rfl
  · exact .ok ‹_› ‹_› ‹_› rfl

def failWcc (now : Nat) (n : Node) (pre : Attrs) (st : Nat) : St × Outcome :=
  ((getAttrOr s now n pre).1, res st (.wcc (wccOf pre (getAttrOr s now n pre).2)))

inductive SetattrApplyRun (s2 : St) (c : Ctx) (h : Nat) (sa : Sattr3) (pre : Attrs) (r : St × Outcome) : Prop
  | noNode (hn : nodeOf s2 h = none) (hr : r = (s2, res 5 (.wcc wcc0)))
  | opFailed {n2 s3 st} (hn : nodeOf s2 h = some n2)
      (hop : setAttrOp s2 h n2 (setattrTarget c sa n2.attrs)
        (sa.atimeHow = 1 ∨ sa.atimeHow = 2 ∨ sa.mtimeHow = 1 ∨ sa.mtimeHow = 2) = (s3, some st))
      (hr : r = (s3, res st (.wcc wcc0)))
  | applied {n2 s3} (hn : nodeOf s2 h = some n2)
      (hop : setAttrOp s2 h n2 (setattrTarget c sa n2.attrs)
        (sa.atimeHow = 1 ∨ sa.atimeHow = 2 ∨ sa.mtimeHow = 1 ∨ sa.mtimeHow = 2) = (s3, none))
      (ht : AttrThen s3 c.now { n2 with attrs := setattrTarget c sa n2.attrs } (.wcc wcc0)
        (fun post => res 0 (.wcc (wccOf pre post))) r)

theorem setattrApply_run (s2 : St) (c : Ctx) (h : Nat) (sa : Sattr3) (pre : Attrs) :
    SetattrApplyRun s2 c h sa pre (setattrApply s2 c h sa pre) := by
  unfold setattrApply
  split
  · exact .noNode ‹_› rfl
  simp only
  split
  · exact .opFailed ‹_› ‹_› rfl
  · exact .applied ‹_› ‹_› (attrThen ..)

inductive SetattrRun (h : Nat) (n : Node) (sa : Sattr3) (guard : Nat) (r : St × Outcome) : Prop
  | attrFailed {s1 e} (hg : getAttr s c.now n = (s1, .error e)) (hr : r = (s1, res (mapErrno e) (.wcc wcc0)))
  | guarded {s1 pre} (hg : getAttr s c.now n = (s1, .ok pre)) (hgd : guard ≠ 0) (hr : r = (s1, res 10002 (.wcc wcc0)))
  | sizeFailed {s1 pre st} (hg : getAttr s c.now n = (s1, .ok pre)) (hgd : guard = 0)
      (hsz : setattrSize s1 h n pre sa.size = .error st) (hr : r = (s1, res st (.wcc wcc0)))
  | sized {s1 pre s2} (hg : getAttr s c.now n = (s1, .ok pre)) (hgd : guard = 0)
      (hsz : setattrSize s1 h n pre sa.size = .ok s2) (hr : r = setattrApply s2 c h sa pre)

inductive SetattrCall (r : St × Outcome) : Prop
  | refused (h : Refusal (.wcc wcc0) s r)
  | run {hd r1 sa r2 guard r3 n}
      (hro : s.cfg.readOnly = false) (hfh : decFh' s args = some (hd, r1)) (hsa : decSattr3 r1 = some (sa, r2))
      (hguard : decU32 r2 = some (guard, r3)) (hbad : badModeBit sa = false) (hn : nodeOf s hd = some n)
      (h : SetattrRun s c hd n sa guard r)

theorem procSetattr_run : SetattrCall s c args (procSetattr s c args) := by
  fun_cases procSetattr s c args
  iterate 7 refusal
  all_goals
    refine .run (Bool.eq_false_iff.mpr ‹_›) ‹_› ‹_› ‹_› (Bool.eq_false_iff.mpr ‹_›) ‹_› ?_
  · exact .attrFailed ‹_› rfl
  · exact .guarded ‹_› ‹_› rfl
  · exact .sizeFailed ‹_› (Decidable.not_not.mp ‹_›) ‹_› rfl
  · exact .sized ‹_› (Decidable.not_not.mp ‹_›) ‹_› rfl

inductive WriteRun (h : Nat) (n : Node) (off : Nat) (data : Bytes) (r : St × Outcome) : Prop
  | attrFailed {s1 e} (hg : getAttr s c.now n = (s1, .error e)) (hr : r = (s1, res (mapErrno e) (.wcc wcc0)))
  | isLink {s1 pre} (hg : getAttr s c.now n = (s1, .ok pre)) (hk : pre.kind = .link) (hr : r = (s1, res 22 (.wcc wcc0)))
  | opFailed {s1 pre e} (hg : getAttr s c.now n = (s1, .ok pre)) (hk : pre.kind ≠ .link)
      (hop : writeOp s1 h n off data = .error e) (hr : r = failWcc s1 c.now n pre (mapErrno e))
  | postFailed {s1 pre s2 k s3 e} (hg : getAttr s c.now n = (s1, .ok pre)) (hk : pre.kind ≠ .link)
      (hop : writeOp s1 h n off data = .ok (s2, k)) (hg2 : getAttr s2 c.now n = (s3, .error e))
      (hr : r = (s3, res (mapErrno e) (.wcc wcc0)))
  | ok {s1 pre s2 k s3 post} (hg : getAttr s c.now n = (s1, .ok pre)) (hk : pre.kind ≠ .link)
      (hop : writeOp s1 h n off data = .ok (s2, k)) (hg2 : getAttr s2 c.now n = (s3, .ok post))
      (hr : r = (s3, res 0 (.writeOk (wccOf pre post) k 2 s.cfg.writeVerf)))

inductive WriteCall (r : St × Outcome) : Prop
  | refused (h : Refusal (.wcc wcc0) s r)
  | run {hd r1 off r2 cnt r3 stable r4 dlen r5 data r6 n}
      (hro : s.cfg.readOnly = false) (hfh : decFh' s args = some (hd, r1)) (hoff : decU64 r1 = some (off, r2))
      (hcnt : decU32 r2 = some (cnt, r3)) (hstable : decU32 r3 = some (stable, r4)) (hlt : off + cnt < u64Max)
      (hdlen : decU32 r4 = some (dlen, r5)) (hdc : dlen = cnt) (htr : cnt ≤ s.cfg.transfer)
      (hmax : exceedsMax s.cfg (off + cnt) = false) (hdata : take? cnt r5 = some (data, r6))
      (hn : nodeOf s hd = some n) (h : WriteRun s c hd n off data r)

theorem procWrite_run : WriteCall s c args (procWrite s c args) := by
  fun_cases procWrite s c args
  iterate 12 refusal
  all_goals
    refine .run (Bool.eq_false_iff.mpr ‹_›) ‹_› ‹_› ‹_› ‹_› (by omega) ‹_› (Decidable.not_not.mp ‹_›) (by omega)
      (Bool.eq_false_iff.mpr ‹_›) ‹_› ‹_› ?_
  · exact .attrFailed ‹_› rfl
  · exact .isLink ‹_› ‹_› rfl
  · exact .opFailed ‹_› ‹_› ‹_› (by rw [failWcc, ‹getAttrOr _ _ _ _ = _›])
  · exact .postFailed ‹_› ‹_› ‹_› ‹_› rfl
  · exact .ok ‹_› ‹_› ‹_› ‹_› rfl

inductive MadeThen (n : Node) (pre : Attrs) (node : Node) (r : St × Outcome) : Prop
  | postFailed {s5 e} (hg : getAttr s c.now n = (s5, .error e)) (hr : r = (s5, res (mapErrno e) (.wcc wcc0)))
  | ok {s5 post} (hg : getAttr s c.now n = (s5, .ok post))
      (hr : r = ((allocate s5 node).1,
        res 0 (.createOk (some (allocate s5 node).2) (some (toFattr node.attrs)) (wccOf pre post))))

theorem madeThen (n : Node) (pre : Attrs) (node : Node) :
    MadeThen s c n pre node
      (match getAttr s c.now n with
       | (s5, .error st) => (s5, res (mapErrno st) (.wcc wcc0))
       | (s5, .ok post) =>
         let (s6, fh) := allocate s5 node
         (s6, res 0 (.createOk (some fh) (some (toFattr node.attrs)) (wccOf pre post)))) := by
  split
  · exact .postFailed ‹_› rfl
  · exact .ok ‹_› rfl

abbrev CreatedOk (fh : Nat) (fa : Rfc.Fattr) (w : Rfc.Wcc) : Outcome := .res ⟨0, .createOk (some fh) (some fa) w⟩

/-- `how` is createmode3: 0 UNCHECKED, 1 GUARDED, 2 EXCLUSIVE -/
inductive CreateSizeRun (s1 : St) (p : Bytes) (how : Nat) (sa : Sattr3) (r : St × Nat) : Prop
  | kept (hc : how = 2 ∨ sa.size = none) (hr : r = (s1, 0))
  | tooLarge {sz} (hh : how ≠ 2) (hsz : sa.size = some sz) (hl : sz > maxInt64) (hr : r = (acInv s1 p, 22))
  | fbig {sz} (hh : how ≠ 2) (hsz : sa.size = some sz) (hbig : exceedsMax s1.cfg sz = true) (hr : r = (acInv s1 p, 27))
  | truncFailed {sz e} (hh : how ≠ 2) (hsz : sa.size = some sz) (ht : Fs.truncate s1.fs (fsPath p) sz = .error e)
      (hr : r = (acInv s1 p, mapErrno e))
  | truncated {sz fs1} (hh : how ≠ 2) (hsz : sa.size = some sz) (hle : sz ≤ maxInt64) (hmax : exceedsMax s1.cfg sz = false)
      (ht : Fs.truncate s1.fs (fsPath p) sz = .ok fs1) (hr : r = (acInv { s1 with fs := fs1 } p, 0))

inductive CreateStep1Run (s1 : St) (p : Bytes) (info : Fs.Info) (how : Nat) (sa : Sattr3) (verf : Bytes) (r : St × Nat) : Prop
  | exist (hc : how = 1 ∨ info.kind ≠ .file ∨ (how = 2 ∧ sameExclusive s1 p verf = false)) (hr : r = (s1, 17))
  | proceed (h1 : how ≠ 1) (hk : info.kind = .file) (hv : how = 2 → sameExclusive s1 p verf = true)
      (h : CreateSizeRun s1 p how sa r)

theorem createStep1_run (s1 : St) (p : Bytes) (info : Fs.Info) (how : Nat) (sa : Sattr3) (verf : Bytes) :
    CreateStep1Run s1 p info how sa verf (createStep1 s1 p info how sa verf) := by
  unfold createStep1
  by_cases h : how = 1 ∨ info.kind ≠ .file
  · rw [if_pos h]; exact .exist (h.elim .inl fun hk => .inr (.inl hk)) rfl
  by_cases h2 : how = 2 ∧ ¬ sameExclusive s1 p verf = true
  · rw [if_neg h, if_pos h2]; exact .exist (.inr (.inr ⟨h2.1, Bool.eq_false_iff.mpr h2.2⟩)) rfl
  rw [if_neg h, if_neg h2]
  refine .proceed (fun h1 => h (.inl h1)) (Decidable.not_not.mp fun hk => h (.inr hk))
    (fun hh => Decidable.not_not.mp fun hv => h2 ⟨hh, hv⟩) ?_
  by_cases hh : how = 2
  · exact .kept (.inl hh) (if_neg fun h3 => h3.1 hh)
  cases hsz : sa.size with
  | none => exact .kept (.inr hsz) (if_neg fun h3 => Bool.false_ne_true h3.2)
  | some sz =>
    rw [if_pos ⟨hh, rfl⟩]
    simp only [Option.getD_some]
    split
    · exact .tooLarge hh hsz ‹_› rfl
    split
    · exact .fbig hh hsz ‹_› rfl
    split
    · exact .truncFailed hh hsz ‹_› rfl
    · exact .truncated hh hsz (by omega) (Bool.eq_false_iff.mpr ‹_›) ‹_› rfl

inductive CreateFinishRun (s2 : St) (st : Nat) (c : Ctx) (n : Node) (pre : Attrs) (p : Bytes) (r : St × Outcome) : Prop
  | failed (hst : st ≠ 0) (hr : r = failWcc s2 c.now n pre st)
  | lookupFailed {s3 e} (hst : st = 0) (hl : lookupPath s2 c.now p = (s3, .error e))
      (hr : r = failWcc s3 c.now n pre (mapErrno e))
  | ok {s3 node} (hst : st = 0) (hl : lookupPath s2 c.now p = (s3, .ok node))
      (hr : r = ((allocate (getAttrOr s3 c.now n pre).1 node).1,
        res 0 (.createOk (some (allocate (getAttrOr s3 c.now n pre).1 node).2) (some (toFattr node.attrs))
          (wccOf pre (getAttrOr s3 c.now n pre).2))))

theorem createFinish_run (s2 : St) (st : Nat) (c : Ctx) (n : Node) (pre : Attrs) (p : Bytes) :
    CreateFinishRun s2 st c n pre p (createFinish s2 st c n pre p) := by
  unfold createFinish
  split
  · exact .failed ‹_› rfl
  split
  · exact .lookupFailed (Decidable.not_not.mp ‹_›) ‹_› rfl
  · exact .ok (Decidable.not_not.mp ‹_›) ‹_› rfl

inductive CreateNewRun (s1 : St) (c : Ctx) (n : Node) (pre : Attrs) (name : Bytes) (mode how : Nat) (sa : Sattr3) (verf : Bytes)
    (r : St × Outcome) : Prop
  | opFailed {s2 e} (hop : createOp s1 c.now n name mode = (s2, .error e)) (hr : r = failWcc s2 c.now n pre (mapErrno e))
  | made {s2 node} (hop : createOp s1 c.now n name mode = (s2, .ok node))
      (ht : MadeThen (chownQuiet (if how = 2 then rememberExclusive s2 node.path verf else s2) node.path
              (ownerUid c sa) (ownerGid c sa)) c n pre node r)

theorem createNew_run (s1 : St) (c : Ctx) (n : Node) (pre : Attrs) (name : Bytes) (mode how : Nat) (sa : Sattr3) (verf : Bytes) :
    CreateNewRun s1 c n pre name mode how sa verf (createNew s1 c n pre name mode how sa verf) := by
  unfold createNew
  split
  · exact .opFailed ‹_› rfl
  · exact .made ‹_› (madeThen ..)

inductive CreateRun (n : Node) (name : Bytes) (how : Nat) (sa : Sattr3) (verf : Bytes) (r : St × Outcome) : Prop
  | attrFailed {s1 e} (hg : getAttr s c.now n = (s1, .error e)) (hr : r = (s1, res (mapErrno e) (.wcc wcc0)))
  | existing {s1 pre info} (hg : getAttr s c.now n = (s1, .ok pre))
      (hi : Fs.lstat s1.fs (fsPath (joinName n.path name)) = .ok info)
      (hr : r = createExisting s1 c n pre (joinName n.path name) info how sa verf)
  | fresh {s1 pre e} (hg : getAttr s c.now n = (s1, .ok pre))
      (hi : Fs.lstat s1.fs (fsPath (joinName n.path name)) = .error e)
      (hr : r = createNew s1 c n pre name (sa.mode.getD 0o644) how sa verf)

inductive CreateCall (r : St × Outcome) : Prop
  | refused (h : Refusal (.wcc wcc0) s r)
  | run {hd r1 name r2 how r3 sa verf n}
      (hro : s.cfg.readOnly = false) (hfh : decFh' s args = some (hd, r1)) (hname : decStr s r1 = some (name, r2))
      (hv : validateFilename name = 0) (hhow : decU32 r2 = some (how, r3))
      (hparse : parseCreateHow how r3 = some (sa, verf)) (hmode : validateMode (sa.mode.getD 0o644) = 0)
      (hn : nodeOf s hd = some n) (h : CreateRun s c n name how sa verf r)

theorem procCreate_run : CreateCall s c args (procCreate s c args) := by
  fun_cases procCreate s c args
  iterate 8 refusal
  all_goals
    refine .run (Bool.eq_false_iff.mpr ‹_›) ‹_› ‹_› (Decidable.not_not.mp ‹_›) ‹_› ‹_› (Decidable.not_not.mp ‹_›) ‹_› ?_
  · exact .attrFailed ‹_› rfl
  · exact .existing ‹_› ‹_› rfl
  · exact .fresh ‹_› ‹_› rfl

def mkdirMade (s1 : St) (fs1 : Fs.T) (c : Ctx) (n : Node) (name : Bytes) (sa : Sattr3) : St :=
  chownQuiet (invalidateForNew { s1 with fs := fs1 } n.path (joinName n.path name)) (joinName n.path name)
    (ownerUid c sa) (ownerGid c sa)

inductive MkdirRun (n : Node) (name : Bytes) (sa : Sattr3) (r : St × Outcome) : Prop
  | attrFailed {s1 e} (hg : getAttr s c.now n = (s1, .error e)) (hr : r = (s1, res (mapErrno e) (.wcc wcc0)))
  | opFailed {s1 pre e} (hg : getAttr s c.now n = (s1, .ok pre))
      (hop : Fs.mkdir s1.fs (fsPath (joinName n.path name)) (sa.mode.getD 0o755) = .error e)
      (hr : r = failWcc s1 c.now n pre (mapErrno e))
  | lookupFailed {s1 pre fs1 s4 e} (hg : getAttr s c.now n = (s1, .ok pre))
      (hop : Fs.mkdir s1.fs (fsPath (joinName n.path name)) (sa.mode.getD 0o755) = .ok fs1)
      (hl : lookupPath (mkdirMade s1 fs1 c n name sa) c.now (joinName n.path name) = (s4, .error e))
      (hr : r = (s4, res (mapErrno e) (.wcc wcc0)))
  | made {s1 pre fs1 s4 node} (hg : getAttr s c.now n = (s1, .ok pre))
      (hop : Fs.mkdir s1.fs (fsPath (joinName n.path name)) (sa.mode.getD 0o755) = .ok fs1)
      (hl : lookupPath (mkdirMade s1 fs1 c n name sa) c.now (joinName n.path name) = (s4, .ok node))
      (ht : MadeThen s4 c n pre node r)

inductive MkdirCall (r : St × Outcome) : Prop
  | refused (h : Refusal (.wcc wcc0) s r)
  | run {hd r1 name r2 sa r3 n}
      (hro : s.cfg.readOnly = false) (hfh : decFh' s args = some (hd, r1)) (hname : decStr s r1 = some (name, r2))
      (hv : validateFilename name = 0) (hsa : decSattr3 r2 = some (sa, r3))
      (hmode : validateMode (sa.mode.getD 0o755) = 0) (hn : nodeOf s hd = some n) (h : MkdirRun s c n name sa r)

theorem procMkdir_run : MkdirCall s c args (procMkdir s c args) := by
  fun_cases procMkdir s c args
  iterate 7 refusal
  all_goals
    refine .run (Bool.eq_false_iff.mpr ‹_›) ‹_› ‹_› (Decidable.not_not.mp ‹_›) ‹_› (Decidable.not_not.mp ‹_›) ‹_› ?_
  · exact .attrFailed ‹_› rfl
  · exact .opFailed ‹_› ‹_› (by rw [failWcc, ‹getAttrOr _ _ _ _ = _›])
  · exact .lookupFailed ‹_› ‹_› ‹_› rfl
  · exact .made ‹_› ‹_› ‹_› (.postFailed ‹_› rfl)
  · exact .made ‹_› ‹_› ‹_› (.ok ‹_› (by rw [‹allocate _ _ = _›]))

inductive SymlinkRun (n : Node) (name : Bytes) (sa : Sattr3) (target : Bytes) (r : St × Outcome) : Prop
  | attrFailed {s1 e} (hg : getAttr s c.now n = (s1, .error e)) (hr : r = (s1, res (mapErrno e) (.wcc wcc0)))
  | opFailed {s1 pre s2 e} (hg : getAttr s c.now n = (s1, .ok pre))
      (hop : symlinkOp s1 c.now n name target = (s2, .error e)) (hr : r = failWcc s2 c.now n pre (mapErrno e))
  | made {s1 pre s2 node} (hg : getAttr s c.now n = (s1, .ok pre))
      (hop : symlinkOp s1 c.now n name target = (s2, .ok node))
      (ht : MadeThen (lchownQuiet s2 (joinName n.path name) (ownerUid c sa) (ownerGid c sa)) c n pre node r)

inductive SymlinkCall (r : St × Outcome) : Prop
  | refused (h : Refusal (.wcc wcc0) s r)
  | run {hd r1 name r2 sa r3 target r4 n}
      (hro : s.cfg.readOnly = false) (hfh : decFh' s args = some (hd, r1)) (hname : decStr s r1 = some (name, r2))
      (hv : validateFilename name = 0) (hsa : decSattr3 r2 = some (sa, r3))
      (htarget : decStr s r3 = some (target, r4)) (hne : target ≠ []) (habs : target.head? ≠ some 47)
      (hdots : targetHasDotDot target = false) (hn : nodeOf s hd = some n) (h : SymlinkRun s c n name sa target r)

theorem procSymlink_run : SymlinkCall s c args (procSymlink s c args) := by
  fun_cases procSymlink s c args
  iterate 10 refusal
  all_goals
    refine .run (Bool.eq_false_iff.mpr ‹_›) ‹_› ‹_› (Decidable.not_not.mp ‹_›) ‹_› ‹_› ‹_› ‹_›
      (Bool.eq_false_iff.mpr ‹_›) ‹_› ?_
  · exact .attrFailed ‹_› rfl
  · exact .opFailed ‹_› ‹_› (by rw [failWcc, ‹getAttrOr _ _ _ _ = _›])
  · exact .made ‹_› ‹_› (.postFailed ‹_› rfl)
  · exact .made ‹_› ‹_› (.ok ‹_› (by rw [‹allocate _ _ = _›]))

inductive RemoveRun (n : Node) (name : Bytes) (r : St × Outcome) : Prop
  | attrFailed {s1 e} (hg : getAttr s c.now n = (s1, .error e)) (hr : r = (s1, res (mapErrno e) (.wcc wcc0)))
  | opFailed {s1 pre e} (hg : getAttr s c.now n = (s1, .ok pre)) (hop : removeOp s1 n name = .error e)
      (hr : r = failWcc s1 c.now n pre (mapErrno e))
  | removed {s1 pre s2} (hg : getAttr s c.now n = (s1, .ok pre)) (hop : removeOp s1 n name = .ok s2)
      (ht : AttrThen s2 c.now n (.wcc wcc0) (fun post => res 0 (.wcc (wccOf pre post))) r)

inductive RemoveCall (r : St × Outcome) : Prop
  | refused (h : Refusal (.wcc wcc0) s r)
  | run {hd r1 name r2 n}
      (hro : s.cfg.readOnly = false) (hfh : decFh' s args = some (hd, r1)) (hname : decStr s r1 = some (name, r2))
      (hv : validateFilename name = 0) (hn : nodeOf s hd = some n) (hdir : n.attrs.kind = .dir)
      (h : RemoveRun s c n name r)

theorem procRemove_run : RemoveCall s c args (procRemove s c args) := by
  fun_cases procRemove s c args
  iterate 6 refusal
  all_goals
    refine .run (Bool.eq_false_iff.mpr ‹_›) ‹_› ‹_› (Decidable.not_not.mp ‹_›) ‹_› (Decidable.not_not.mp ‹_›) ?_
  · exact .attrFailed ‹_› rfl
  · exact .opFailed ‹_› ‹_› (by rw [failWcc, ‹getAttrOr _ _ _ _ = _›])
  · exact .removed ‹_› ‹_› (.failed ‹_› rfl)
  · exact .removed ‹_› ‹_› (.ok ‹_› rfl)

def rmdirDone (s1 : St) (fs1 : Fs.T) (n : Node) (name : Bytes) : St :=
  dcInv (dcInv (acInv (acInv { s1 with fs := fs1 } (joinName n.path name)) n.path) n.path) (joinName n.path name)

/-- handleRmdir: os.IsNotExist gives NOENT; otherwise mapError, whose NFSERR_EXIST ("directory not empty") and
    NFSERR_IO become NFSERR_NOTEMPTY (66) -/
def rmdirCode (e : Fs.Errno) : Nat :=
  if e = .ENOENT then 2 else (if mapErrno e = 17 ∨ mapErrno e = 5 then 66 else mapErrno e)

theorem rmdirCode_status (e : Fs.Errno) : rmdirCode e ≠ 0 ∧ StatusOK (rmdirCode e) := by cases e <;> decide

inductive RmdirRun (n : Node) (name : Bytes) (r : St × Outcome) : Prop
  | attrFailed {s1 e} (hg : getAttr s c.now n = (s1, .error e)) (hr : r = (s1, res (mapErrno e) (.wcc wcc0)))
  | absent {s1 pre e} (hg : getAttr s c.now n = (s1, .ok pre))
      (hi : Fs.lstat s1.fs (fsPath (joinName n.path name)) = .error e) (hr : r = (s1, res 2 (.wcc (wccOf pre pre))))
  | notDir {s1 pre i} (hg : getAttr s c.now n = (s1, .ok pre))
      (hi : Fs.lstat s1.fs (fsPath (joinName n.path name)) = .ok i) (hk : i.kind ≠ .dir)
      (hr : r = (s1, res 20 (.wcc (wccOf pre pre))))
  | opFailed {s1 pre i e} (hg : getAttr s c.now n = (s1, .ok pre))
      (hi : Fs.lstat s1.fs (fsPath (joinName n.path name)) = .ok i) (hk : i.kind = .dir)
      (hop : Fs.remove s1.fs (fsPath (joinName n.path name)) = .error e) (hr : r = failWcc s1 c.now n pre (rmdirCode e))
  | removed {s1 pre i fs1} (hg : getAttr s c.now n = (s1, .ok pre))
      (hi : Fs.lstat s1.fs (fsPath (joinName n.path name)) = .ok i) (hk : i.kind = .dir)
      (hop : Fs.remove s1.fs (fsPath (joinName n.path name)) = .ok fs1)
      (ht : AttrThen (rmdirDone s1 fs1 n name) c.now n (.wcc wcc0) (fun post => res 0 (.wcc (wccOf pre post))) r)

inductive RmdirCall (r : St × Outcome) : Prop
  | refused (h : Refusal (.wcc wcc0) s r)
  | run {hd r1 name r2 n}
      (hro : s.cfg.readOnly = false) (hfh : decFh' s args = some (hd, r1)) (hname : decStr s r1 = some (name, r2))
      (hv : validateFilename name = 0) (hn : nodeOf s hd = some n) (hdir : n.attrs.kind = .dir)
      (h : RmdirRun s c n name r)

theorem procRmdir_run : RmdirCall s c args (procRmdir s c args) := by
  fun_cases procRmdir s c args
  iterate 6 refusal
  all_goals
    refine .run (Bool.eq_false_iff.mpr ‹_›) ‹_› ‹_› (Decidable.not_not.mp ‹_›) ‹_› (Decidable.not_not.mp ‹_›) ?_
  · exact .attrFailed ‹_› rfl
  · exact .absent ‹_› ‹_› rfl
  · exact .notDir ‹_› ‹_› ‹_› rfl
  · exact .opFailed ‹_› ‹_› (Decidable.not_not.mp ‹_›) ‹_› (by rw [failWcc, ‹getAttrOr _ _ _ _ = _›]; rfl)
  · exact .removed ‹_› ‹_› (Decidable.not_not.mp ‹_›) ‹_› (.failed ‹_› rfl)
  · exact .removed ‹_› ‹_› (Decidable.not_not.mp ‹_›) ‹_› (.ok ‹_› rfl)

inductive RenameRun (d1 : Node) (n1 : Bytes) (d2 : Node) (n2 : Bytes) (r : St × Outcome) : Prop
  | attr1Failed {s1 e} (hg1 : getAttr s c.now d1 = (s1, .error e)) (hr : r = (s1, res (mapErrno e) (.wcc2 wcc0 wcc0)))
  | attr2Failed {s1 pre1 s2 e} (hg1 : getAttr s c.now d1 = (s1, .ok pre1)) (hg2 : getAttr s1 c.now d2 = (s2, .error e))
      (hr : r = (s2, res (mapErrno e) (.wcc2 wcc0 wcc0)))
  | opFailed {s1 pre1 s2 pre2 e} (hg1 : getAttr s c.now d1 = (s1, .ok pre1)) (hg2 : getAttr s1 c.now d2 = (s2, .ok pre2))
      (hop : renameOp s2 d1 n1 d2 n2 = .error e)
      (hr : r = ((getAttrOr (getAttrOr s2 c.now d1 pre1).1 c.now d2 pre2).1,
        res (mapErrno e) (.wcc2 (wccOf pre1 (getAttrOr s2 c.now d1 pre1).2)
          (wccOf pre2 (getAttrOr (getAttrOr s2 c.now d1 pre1).1 c.now d2 pre2).2))))
  | post1Failed {s1 pre1 s2 pre2 s3 s4 e} (hg1 : getAttr s c.now d1 = (s1, .ok pre1))
      (hg2 : getAttr s1 c.now d2 = (s2, .ok pre2)) (hop : renameOp s2 d1 n1 d2 n2 = .ok s3)
      (hp1 : getAttr s3 c.now d1 = (s4, .error e)) (hr : r = (s4, res (mapErrno e) (.wcc2 wcc0 wcc0)))
  | post2Failed {s1 pre1 s2 pre2 s3 s4 post1 s5 e} (hg1 : getAttr s c.now d1 = (s1, .ok pre1))
      (hg2 : getAttr s1 c.now d2 = (s2, .ok pre2)) (hop : renameOp s2 d1 n1 d2 n2 = .ok s3)
      (hp1 : getAttr s3 c.now d1 = (s4, .ok post1)) (hp2 : getAttr s4 c.now d2 = (s5, .error e))
      (hr : r = (s5, res (mapErrno e) (.wcc2 wcc0 wcc0)))
  | ok {s1 pre1 s2 pre2 s3 s4 post1 s5 post2} (hg1 : getAttr s c.now d1 = (s1, .ok pre1))
      (hg2 : getAttr s1 c.now d2 = (s2, .ok pre2)) (hop : renameOp s2 d1 n1 d2 n2 = .ok s3)
      (hp1 : getAttr s3 c.now d1 = (s4, .ok post1)) (hp2 : getAttr s4 c.now d2 = (s5, .ok post2))
      (hr : r = (s5, res 0 (.wcc2 (wccOf pre1 post1) (wccOf pre2 post2))))

inductive RenameCall (r : St × Outcome) : Prop
  | refused (h : Refusal (.wcc2 wcc0 wcc0) s r)
  | run {h1 r1 n1 r2 h2 r3 n2 r4 d1 d2}
      (hro : s.cfg.readOnly = false) (hfh : decFh' s args = some (h1, r1)) (hn1 : decStr s r1 = some (n1, r2))
      (hv1 : validateFilename n1 = 0) (hfh2 : decFh' s r2 = some (h2, r3)) (hn2 : decStr s r3 = some (n2, r4))
      (hv2 : validateFilename n2 = 0) (hd1 : nodeOf s h1 = some d1) (hd2 : nodeOf s h2 = some d2)
      (h : RenameRun s c d1 n1 d2 n2 r)

theorem procRename_run : RenameCall s c args (procRename s c args) := by
  fun_cases procRename s c args
  iterate 9 refusal
  all_goals
    refine .run (Bool.eq_false_iff.mpr ‹_›) ‹_› ‹_› (Decidable.not_not.mp ‹_›) ‹_› ‹_› (Decidable.not_not.mp ‹_›) ‹_› ‹_› ?_
  · exact .attr1Failed ‹_› rfl
  · exact .attr2Failed ‹_› ‹_› rfl
  · exact .opFailed ‹_› ‹_› ‹_› (by simp only [*])
  · exact .post1Failed ‹_› ‹_› ‹_› ‹_› rfl
  · exact .post2Failed ‹_› ‹_› ‹_› ‹_› ‹_› rfl
  · exact .ok ‹_› ‹_› ‹_› ‹_› ‹_› rfl

end Server
end Absnfs
