/-
  Conns: connection accounting (server.go: registerConnection / unregisterConnection / cleanupIdleConnections /
  closeAllConnections) as a transition system. registerConnection is one critical section; unregisterConnection
  is two: a lookup under the mutex, then `Once.Do` with the removal under the mutex — several goroutines (the
  connection's own exit, the idle reaper, closeAll) may be between the two at the same time.
-/
namespace Absnfs
namespace Conns

structure Conn where
  id : Nat
  inMap : Bool        -- present in activeConns
  onceDone : Bool     -- its unregisterOnce has fired
  pending : Nat       -- callers of unregisterConnection that passed the lookup and have not reached Once.Do yet
  deriving DecidableEq, Repr

structure St where
  conns : List Conn   -- every connection ever accepted
  count : Int         -- s.connCount
  rejected : Nat      -- connections refused at the limit
  deriving Repr

def init : St := { conns := [], count := 0, rejected := 0 }

def inMapCount (s : St) : Nat := (s.conns.filter (·.inMap)).length

def upd (l : List Conn) (id : Nat) (f : Conn → Conn) : List Conn := l.map fun c => if c.id = id then f c else c

def incPending (x : Conn) : Conn := { x with pending := x.pending + 1 }
def decPending (x : Conn) : Conn := { x with pending := x.pending - 1 }
def fire (x : Conn) : Conn := { x with pending := x.pending - 1, onceDone := true, inMap := false }

inductive Step (max : Nat) : St → St → Prop
  /-- accept + registerConnection below the limit (max = 0 means unlimited) -/
  | accept (s : St) (id : Nat) (hnew : ∀ c ∈ s.conns, c.id ≠ id) (hroom : max = 0 ∨ s.count < max) :
      Step max s { s with conns := ⟨id, true, false, 0⟩ :: s.conns, count := s.count + 1 }
  /-- accept at the limit: the connection is closed and never registered -/
  | reject (s : St) (hfull : max > 0 ∧ s.count ≥ max) : Step max s { s with rejected := s.rejected + 1 }
  /-- unregisterConnection, first critical section: the connection is found in the map -/
  | unregLookup (s : St) (c : Conn) (hc : c ∈ s.conns) (hin : c.inMap = true) :
      Step max s { s with conns := upd s.conns c.id incPending }
  /-- unregisterConnection, Once.Do body (first caller): remove and decrement if still present -/
  | unregFire (s : St) (c : Conn) (hc : c ∈ s.conns) (hp : c.pending > 0) (ho : c.onceDone = false) :
      Step max s { s with conns := upd s.conns c.id fire, count := if c.inMap then s.count - 1 else s.count }
  /-- unregisterConnection, Once.Do for a later caller: nothing happens -/
  | unregNoop (s : St) (c : Conn) (hc : c ∈ s.conns) (hp : c.pending > 0) (ho : c.onceDone = true) :
      Step max s { s with conns := upd s.conns c.id decPending }

inductive Reach (max : Nat) : St → Prop
  | init : Reach max init
  | step (s s' : St) (h : Reach max s) (hs : Step max s s') : Reach max s'

/-- `count`, `bound` and `fired` are what C17 claims; `ids` is there for `upd_count`. -/
structure Inv (max : Nat) (s : St) : Prop where
  count : s.count = (inMapCount s : Int)
  bound : max > 0 → s.count ≤ max
  fired : ∀ c ∈ s.conns, c.onceDone = true → c.inMap = false
  ids : (s.conns.map (·.id)).Nodup

theorem inv_init (max : Nat) : Inv max init := by
  constructor <;> simp [init, inMapCount]

theorem Step.count_le_of_le {max : Nat} {s s' : St} (h : Step max s s') (hm : max > 0) {top : Int}
    (hmax : max ≤ top) (hc : s.count ≤ top) : s'.count ≤ top := by
  cases h with
  | accept id _ hroom =>
    show s.count + 1 ≤ top
    omega
  | unregFire c _ _ _ =>
    show (if c.inMap then s.count - 1 else s.count) ≤ top
    split <;> omega
  | _ => exact hc

theorem upd_ids (l : List Conn) (id : Nat) (f : Conn → Conn) (hf : ∀ x, (f x).id = x.id) :
    (upd l id f).map (·.id) = l.map (·.id) := by
  rw [upd, List.map_map]
  apply List.map_congr_left
  intro x _
  show (if x.id = id then f x else x).id = x.id
  split <;> simp [hf]

theorem forall_upd {P : Conn → Prop} {l : List Conn} {id : Nat} {f : Conn → Conn} (h : ∀ y ∈ l, P y)
    (hf : ∀ y, P y → P (f y)) : ∀ x ∈ upd l id f, P x := by
  intro x hx
  obtain ⟨y, hy, rfl⟩ := List.mem_map.mp hx
  split
  · exact hf y (h y hy)
  · exact h y hy

theorem upd_absent (l : List Conn) (id : Nat) (f : Conn → Conn) (h : ∀ y ∈ l, y.id ≠ id) : upd l id f = l :=
  (List.map_congr_left fun y hy => if_neg (h y hy)).trans (List.map_id' l)

theorem upd_count {l : List Conn} {c : Conn} (hc : c ∈ l) (hnd : (l.map (·.id)).Nodup) (f : Conn → Conn) :
    (upd l c.id f).countP (·.inMap) + (if c.inMap then 1 else 0) =
      l.countP (·.inMap) + (if (f c).inMap then 1 else 0) := by
  induction l with
  | nil => simp at hc
  | cons x xs ih =>
    have hnd : x.id ∉ xs.map (·.id) ∧ (xs.map (·.id)).Nodup := List.nodup_cons.mp hnd
    have hid : ∀ y ∈ xs, y.id ≠ x.id := fun y hy he => hnd.1 (he ▸ List.mem_map_of_mem hy)
    show ((if x.id = c.id then f x else x) :: upd xs c.id f).countP _ + _ = _
    rw [List.countP_cons, List.countP_cons]
    rcases List.mem_cons.mp hc with rfl | hc
    · rw [upd_absent xs c.id f hid, if_pos rfl]
      omega
    · have := ih hc hnd.2
      rw [if_neg (hid c hc).symm]
      omega

theorem Inv.upd {max : Nat} {s : St} {c : Conn} (hI : Inv max s) (hc : c ∈ s.conns) (f : Conn → Conn) (n : Int)
    (hid : ∀ x, (f x).id = x.id)
    (hfired : ∀ x, (x.onceDone = true → x.inMap = false) → (f x).onceDone = true → (f x).inMap = false)
    (hn : n + ((if c.inMap then 1 else 0 : Nat) : Int) = s.count + ((if (f c).inMap then 1 else 0 : Nat) : Int))
    (hb : max > 0 → n ≤ max) :
    Inv max { s with conns := Conns.upd s.conns c.id f, count := n } where
  count := by
    have := upd_count hc hI.ids f
    have := hI.count
    simp only [inMapCount, ← List.countP_eq_length_filter] at *
    omega
  bound := hb
  fired := forall_upd hI.fired hfired
  ids := by rw [upd_ids _ _ _ hid]; exact hI.ids

theorem inv_step (max : Nat) (s s' : St) (hI : Inv max s) (hs : Step max s s') : Inv max s' := by
  have hb : max > 0 → s'.count ≤ max := fun hm => hs.count_le_of_le hm (Int.le_refl _) (hI.bound hm)
  cases hs with
  | accept id hnew hroom =>
    refine ⟨?_, hb, ?_, ?_⟩
    · have := hI.count
      simp only [inMapCount, List.filter_cons, if_true, List.length_cons] at this ⊢
      omega
    · exact List.forall_mem_cons.mpr ⟨(fun ho => nomatch ho), hI.fired⟩
    · refine List.nodup_cons.mpr ⟨fun h => ?_, hI.ids⟩
      obtain ⟨c, hc, hid⟩ := List.mem_map.mp h
      exact hnew c hc hid
  | reject hfull => exact ⟨hI.count, hI.bound, hI.fired, hI.ids⟩
  | unregLookup c hc hin => exact hI.upd hc incPending s.count (fun _ => rfl) (fun _ h => h) rfl hb
  | unregFire c hc hp ho =>
    refine hI.upd hc fire _ (fun _ => rfl) (fun _ _ _ => rfl) ?_ hb
    cases c.inMap <;> simp [fire]
  | unregNoop c hc hp ho => exact hI.upd hc decPending s.count (fun _ => rfl) (fun _ h => h) rfl hb

theorem inv_reach (max : Nat) (s : St) (h : Reach max s) : Inv max s := by
  induction h with
  | init => exact inv_init max
  | step s s' _ hs ih => exact inv_step max s s' ih hs

end Conns
end Absnfs
