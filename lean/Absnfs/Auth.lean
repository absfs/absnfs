/-
  Auth: host filtering, secure-port rule, credential flavors and identity squashing.
  Models auth.go: ValidateAuthentication, applySquashing, normalizeIP, isIPAllowed and
  server.go: Server.isIPAllowed (same membership rule).
  Text parsing of addresses (net.ParseIP / net.ParseCIDR) is Go's and is not modelled: the model starts
  from parsed values. An address is its family and its value as a number.
-/
import Absnfs.Rpc
namespace Absnfs

inductive IP where
  | v4 (n : Nat)   -- 32-bit value; includes IPv4-mapped IPv6 after normalizeIP
  | v6 (n : Nat)   -- 128-bit value that is not IPv4-mapped
  deriving DecidableEq, Repr

/-- One AllowedIPs entry after parsing. `bad` = text that does not parse (skipped by the code). -/
inductive AllowEntry where
  | single (ip : IP)
  | cidr (base : IP) (ones : Nat)     -- network number and prefix length in the base's own family
  | bad
  deriving DecidableEq, Repr

def IP.bits : IP → Nat
  | .v4 _ => 32
  | .v6 _ => 128

/-- IPNet.Contains on normalised values: same family and equal leading `ones` bits. -/
def cidrContains (base : IP) (ones : Nat) (ip : IP) : Bool :=
  match base, ip with
  | .v4 b, .v4 a => ones ≤ 32 && (b >>> (32 - ones) == a >>> (32 - ones))
  | .v6 b, .v6 a => ones ≤ 128 && (b >>> (128 - ones) == a >>> (128 - ones))
  | _, _ => false

def entryMatches (e : AllowEntry) (ip : IP) : Bool :=
  match e with
  | .single x => x == ip
  | .cidr b n => cidrContains b n ip
  | .bad => false

/-- isIPAllowed: `none` client = unparsable client address. -/
def ipAllowed (client : Option IP) (entries : List AllowEntry) : Bool :=
  match client with
  | none => false
  | some ip => entries.any (fun e => entryMatches e ip)

/-- The address part of ValidateAuthentication / the accept-time filter: an empty list admits everyone. -/
def hostAdmitted (client : Option IP) (entries : List AllowEntry) : Bool :=
  entries.isEmpty || ipAllowed client entries

/-- normalizeIP on the 16-byte form net.ParseIP returns (as a 128-bit number): IPv4 and IPv4-mapped
    IPv6 text both parse to ::ffff:a.b.c.d, which `To4` turns into the 4-byte form. -/
def normalizeIP (n : Nat) : IP :=
  if n / 4294967296 = 65535 then .v4 (n % 4294967296) else .v6 n

def nobody : Nat := 65534

def asciiLower (s : Bytes) : Bytes :=
  s.map fun b => if 65 ≤ b.toNat ∧ b.toNat ≤ 90 then UInt8.ofNat (b.toNat + 32) else b

inductive SquashMode where
  | root | all | none | unknown
  deriving DecidableEq, Repr

def strBytes (s : String) : Bytes := s.toUTF8.toList

def squashMode (s : Bytes) : SquashMode :=
  let l := asciiLower s
  if l = [114, 111, 111, 116] then .root          -- "root"
  else if l = [97, 108, 108] then .all             -- "all"
  else if l = [110, 111, 110, 101] ∨ l = [] then .none  -- "none", ""
  else .unknown

structure Identity where
  uid : Nat
  gid : Nat
  aux : List Nat
  deriving DecidableEq, Repr

/-- applySquashing on an AUTH_SYS identity. -/
def squash (m : SquashMode) (c : Identity) : Identity :=
  match m with
  | .root =>
    { uid := if c.uid = 0 then nobody else c.uid,
      gid := if c.uid = 0 then nobody else if c.gid = 0 then nobody else c.gid,
      aux := c.aux.map fun g => if g = 0 then nobody else g }
  | .all => { uid := nobody, gid := nobody, aux := c.aux.map fun _ => nobody }
  | .none => c
  | .unknown => { uid := nobody, gid := nobody, aux := c.aux }

inductive AuthOutcome where
  | denied
  | allowed (id : Identity)
  deriving DecidableEq, Repr

/-- ValidateAuthentication. `maxStr`, `maxGids` are the AUTH_SYS parser limits. -/
def validateAuth (maxStr maxGids : Nat) (client : Option IP) (entries : List AllowEntry)
    (secure : Bool) (port : Nat) (privBound : Nat) (flavor : Nat) (body : Bytes) (sq : Bytes) : AuthOutcome :=
  if !hostAdmitted client entries then .denied
  else if secure && decide (port ≥ privBound) then .denied
  else if flavor = 0 then .allowed { uid := nobody, gid := nobody, aux := [] }
  else if flavor = 1 then
    match parseAuthSys maxStr maxGids body with
    | none => .denied
    | some a => .allowed (squash (squashMode sq) { uid := a.uid, gid := a.gid, aux := a.gids })
  else .denied

theorem normalizeIP_mapped (a : Nat) (h : a < 4294967296) :
    normalizeIP (4294967296 * 65535 + a) = .v4 a := by
  unfold normalizeIP
  rw [Nat.mul_add_div (by decide), Nat.mul_add_mod, Nat.div_eq_of_lt h, Nat.mod_eq_of_lt h]
  rfl

theorem cidrContains_family (base ip : IP) (ones : Nat) (h : cidrContains base ones ip = true) :
    base.bits = ip.bits := by
  cases base <;> cases ip <;> simp [cidrContains, IP.bits] at *

theorem entryMatches_iff (e : AllowEntry) (ip : IP) :
    entryMatches e ip = true ↔ e = .single ip ∨ ∃ b n, e = .cidr b n ∧ cidrContains b n ip = true := by
  cases e <;> simp [entryMatches, and_assoc]

theorem ipAllowed_iff (ip : IP) (entries : List AllowEntry) :
    ipAllowed (some ip) entries = true ↔ ∃ e ∈ entries, entryMatches e ip = true := by
  simp [ipAllowed, List.any_eq_true]

theorem squash_aux_length (m : SquashMode) (c : Identity) : (squash m c).aux.length = c.aux.length := by
  cases m <;> simp [squash]

theorem asciiLower_idem (s : Bytes) : asciiLower (asciiLower s) = asciiLower s := by
  simp only [asciiLower, List.map_map]
  apply List.map_congr_left
  intro b _
  simp only [Function.comp]
  by_cases h : 65 ≤ b.toNat ∧ b.toNat ≤ 90
  · simp [h]; omega
  · simp [h]

theorem validateAuth_allowed_iff (ms mg : Nat) (c : Option IP) (es : List AllowEntry) (sec : Bool)
    (port pb fl : Nat) (body sq : Bytes) (id : Identity) :
    validateAuth ms mg c es sec port pb fl body sq = .allowed id ↔
      hostAdmitted c es = true ∧ (sec && decide (port ≥ pb)) = false ∧
      ((fl = 0 ∧ id = ⟨nobody, nobody, []⟩) ∨
       (fl = 1 ∧ ∃ a, parseAuthSys ms mg body = some a ∧ id = squash (squashMode sq) ⟨a.uid, a.gid, a.gids⟩)) := by
  unfold validateAuth
  cases hostAdmitted c es
  · simp
  cases (sec && decide (port ≥ pb))
  · by_cases h0 : fl = 0
    · simp [h0, eq_comm]
    by_cases h1 : fl = 1
    · cases parseAuthSys ms mg body <;> simp [h1, eq_comm]
    · simp [h0, h1]
  · simp

theorem validateAuth_denied_iff (ms mg : Nat) (c : Option IP) (es : List AllowEntry) (sec : Bool)
    (port pb fl : Nat) (body sq : Bytes) :
    validateAuth ms mg c es sec port pb fl body sq = .denied ↔
      hostAdmitted c es = false ∨ (sec && decide (port ≥ pb)) = true ∨
      (fl ≠ 0 ∧ (fl = 1 → parseAuthSys ms mg body = none)) := by
  unfold validateAuth
  cases hostAdmitted c es
  · simp
  cases (sec && decide (port ≥ pb))
  · by_cases h0 : fl = 0
    · simp [h0]
    by_cases h1 : fl = 1
    · cases parseAuthSys ms mg body <;> simp [h1]
    · simp [h0, h1]
  · simp

end Absnfs
