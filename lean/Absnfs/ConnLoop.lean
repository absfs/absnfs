/-
  ConnLoop: one record-marking connection (server.go: handleConnectionLoop over recordMarkingConnIO) at the level
  of whole records. Records are read one at a time; a record that decodes as an RPC call is handled and
  answered before the next one is read; the first record that does not decode ends the loop (the connection is
  closed). Reading a record and decoding a call are the models of C13 (`readRecord` in RecordMark) and C12
  (`decCall` in Rpc), whose allocation bounds are proved there.
-/
import Absnfs.Rpc
namespace Absnfs
namespace ConnLoop

/-- reply XIDs in order, and whether the server closed the connection -/
def serve (maxAuth : Nat) : List Bytes → List Nat × Bool
  | [] => ([], false)
  | r :: rs =>
    match decCall maxAuth r with
    | none => ([], true)
    | some (c, _) => ((c.xid :: (serve maxAuth rs).1), (serve maxAuth rs).2)

def xidOf (maxAuth : Nat) (r : Bytes) : Option Nat := (decCall maxAuth r).map (·.1.xid)

def decodablePrefix (maxAuth : Nat) : List Bytes → List Bytes
  | [] => []
  | r :: rs => if (decCall maxAuth r).isSome then r :: decodablePrefix maxAuth rs else []

end ConnLoop
end Absnfs
