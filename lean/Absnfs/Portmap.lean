/-
  Portmap: the built-in portmapper / rpcbind (portmapper.go): registry + handleCall for portmap v2 and
  rpcbind v3/v4, with the caller classified as loopback or not.
-/
import Absnfs.Rpc
namespace Absnfs
namespace Portmap

structure Mapping where
  prog : Nat
  vers : Nat
  prot : Nat
  port : Nat
  deriving DecidableEq, Repr

abbrev Registry := List Mapping

def sameKey (m : Mapping) (prog vers prot : Nat) : Bool := m.prog == prog && m.vers == vers && m.prot == prot

/-- RegisterService: update the port of an existing (prog, vers, prot), else append. -/
def register : Registry → Nat → Nat → Nat → Nat → Registry
  | [], p, v, t, port => [⟨p, v, t, port⟩]
  | m :: ms, p, v, t, port =>
    if sameKey m p v t then { m with port := port } :: ms else m :: register ms p v t port

/-- UnregisterService: remove the first (only) mapping with that key. -/
def unregister (r : Registry) (p v t : Nat) : Registry := r.eraseP (fun m => sameKey m p v t)

/-- GetPort: 0 if absent. -/
def getPort (r : Registry) (p v t : Nat) : Nat :=
  match r.find? (fun m => sameKey m p v t) with
  | some m => m.port
  | none => 0

/-- the registry as a map -/
def lookup (r : Registry) (p v t : Nat) : Option Nat := (r.find? (fun m => sameKey m p v t)).map (·.port)

inductive Caller where
  | loopback   -- loopback address, in-process (nil) caller, or an address whose host is not an IP literal
  | other
  deriving DecidableEq, Repr

def tcp : Nat := 6
def udp : Nat := 17

def encBool (b : Bool) : Bytes := encU32 (if b then 1 else 0)

/-- four u32 arguments of portmap v2 SET/UNSET/GETPORT -/
def dec4 (bs : Bytes) : Option (Nat × Nat × Nat × Nat) :=
  match decU32 bs with
  | none => none
  | some (a, r1) =>
  match decU32 r1 with
  | none => none
  | some (b, r2) =>
  match decU32 r2 with
  | none => none
  | some (c, r3) =>
  match decU32 r3 with
  | none => none
  | some (d, _) => some (a, b, c, d)

def asciiBytes (s : String) : Bytes := s.toUTF8.toList

def netidTcp : Bytes := [116, 99, 112]          -- "tcp"
def netidTcp6 : Bytes := [116, 99, 112, 54]     -- "tcp6"
def netidUdp : Bytes := [117, 100, 112]         -- "udp"
def netidUdp6 : Bytes := [117, 100, 112, 54]    -- "udp6"

def digitsToNat? (bs : Bytes) : Option Nat :=
  if bs = [] then none
  else bs.foldlM (fun acc b => if 48 ≤ b.toNat ∧ b.toNat ≤ 57 then some (acc * 10 + (b.toNat - 48)) else none) 0

def splitOn (sep : UInt8) : Bytes → List Bytes
  | [] => [[]]
  | b :: bs =>
    match splitOn sep bs with
    | [] => [[b]]
    | cur :: rest => if b = sep then [] :: cur :: rest else (b :: cur) :: rest

/-- port encoded in a universal address "a.b.c.d.hi.lo" (unsigned decimal fields); 0 when it does not parse.
    Models Sscanf("%d.%d.%d.%d.%d.%d") on the inputs the correspondence generates (no signs or blanks). -/
def uaddrPort (u : Bytes) : Nat :=
  match (splitOn 46 u).map digitsToNat? with
  | some _ :: some _ :: some _ :: some _ :: some hi :: some lo :: _ => (hi * 256 + lo) % 4294967296
  | _ => 0

def natDigits (n : Nat) : Bytes := asciiBytes (toString n)

/-- universal address for a registered port -/
def uaddrOf (addr : Bytes) (port : Nat) : Bytes :=
  addr ++ [46] ++ natDigits (port / 256) ++ [46] ++ natDigits (port % 256)

def v6Local : Bytes := [58, 58, 49]   -- "::1"

def dumpV2 (r : Registry) : Bytes :=
  (r.flatMap fun m => encU32 1 ++ encU32 m.prog ++ encU32 m.vers ++ encU32 m.prot ++ encU32 m.port) ++ encU32 0

def superuser : Bytes := [115, 117, 112, 101, 114, 117, 115, 101, 114]

def dumpRpcb (addr : Bytes) (r : Registry) : Bytes :=
  (r.flatMap fun m => encU32 1 ++ encU32 m.prog ++ encU32 m.vers ++
      encOpaque (if m.prot = tcp then netidTcp else netidUdp) ++ encOpaque (uaddrOf addr m.port) ++
      encOpaque superuser) ++ encU32 0

/-- result of one procedure: new registry and result bytes -/
structure Out where
  reg : Registry
  res : Bytes

/-- portmap v2 procedures. `checked` = the handler refuses non-loopback callers (regenerated per handler). -/
def v2Set (checked : Bool) (r : Registry) (c : Caller) (args : Bytes) : Out :=
  if checked && c == .other then ⟨r, encBool false⟩ else
  match dec4 args with
  | none => ⟨r, encBool false⟩
  | some (p, v, t, port) => ⟨register r p v t port, encBool true⟩

def v2Unset (checked : Bool) (r : Registry) (c : Caller) (args : Bytes) : Out :=
  if checked && c == .other then ⟨r, encBool false⟩ else
  match dec4 args with
  | none => ⟨r, encBool false⟩
  | some (p, v, t, _) => ⟨unregister r p v t, encBool true⟩

def v2GetPort (r : Registry) (args : Bytes) : Bytes :=
  match dec4 args with
  | none => encU32 0
  | some (p, v, t, _) => encU32 (getPort r p v t)

/-- rpcbind v3/v4: prog, vers, netid, uaddr, owner -/
def rpcbSet (checked : Bool) (maxStr : Nat) (r : Registry) (c : Caller) (args : Bytes) : Out :=
  if checked && c == .other then ⟨r, encBool false⟩ else
  match decU32 args with
  | none => ⟨r, encBool false⟩
  | some (p, r1) =>
  match decU32 r1 with
  | none => ⟨r, encBool false⟩
  | some (v, r2) =>
  match decString maxStr r2 with
  | none => ⟨r, encBool false⟩
  | some (netid, r3) =>
  match decString maxStr r3 with
  | none => ⟨r, encBool false⟩
  | some (uaddr, _) =>
    let prot := if netid = netidUdp ∨ netid = netidUdp6 then udp else tcp
    let port := uaddrPort uaddr
    ⟨if port > 0 then register r p v prot port else r, encBool true⟩

def rpcbUnset (checked : Bool) (maxStr : Nat) (r : Registry) (c : Caller) (args : Bytes) : Out :=
  if checked && c == .other then ⟨r, encBool false⟩ else
  match decU32 args with
  | none => ⟨r, encBool false⟩
  | some (p, r1) =>
  match decU32 r1 with
  | none => ⟨r, encBool false⟩
  | some (v, r2) =>
  match decString maxStr r2 with
  | none => ⟨r, encBool false⟩
  | some (netid, _) =>
    let prot := if netid = netidUdp ∨ netid = netidUdp6 then udp else tcp
    ⟨unregister r p v prot, encBool true⟩

def rpcbGetAddr (maxStr : Nat) (addr : Bytes) (r : Registry) (args : Bytes) : Bytes :=
  match decU32 args with
  | none => encOpaque []
  | some (p, r1) =>
  match decU32 r1 with
  | none => encOpaque []
  | some (v, r2) =>
  match decString maxStr r2 with
  | none => encOpaque []
  | some (netid, _) =>
    let prot := if netid = netidTcp ∨ netid = netidTcp6 then tcp else udp
    let port := getPort r p v prot
    if port > 0 then
      if netid = netidTcp6 ∨ netid = netidUdp6 then encOpaque (uaddrOf v6Local port)
      else encOpaque (uaddrOf addr port)
    else encOpaque []

/-- makeReply: always MSG_ACCEPTED with a null verifier; `mismatchInfo` = PROG_MISMATCH carries low/high. -/
def makeReply (mismatchInfo : Bool) (xid : Nat) (acceptStat : Nat) (data : Bytes) : Bytes :=
  encU32 xid ++ encU32 1 ++ encU32 0 ++ encU32 0 ++ encU32 0 ++
  (if acceptStat = 0 then encU32 0 ++ data
   else encU32 acceptStat ++ (if mismatchInfo && acceptStat = 2 then encU32 2 ++ encU32 4 else []))

/-- skipAuth: flavor, length ≤ maxAuth, body and padding (only when length > 0) -/
def skipAuth (maxAuth : Nat) (bs : Bytes) : Option Bytes :=
  match decU32 bs with
  | none => none
  | some (_, r1) =>
    match decOpaque maxAuth r1 with
    | none => none
    | some (_, r2) => some r2

/-- which handlers test the caller's address (regenerated from the source) -/
structure Checks where
  v2Set : Bool
  v2Unset : Bool
  rpcbSet : Bool
  rpcbUnset : Bool
  mismatchInfo : Bool

/-- handleCall: `none` = the record is dropped without a reply. -/
def handleCall (ck : Checks) (maxAuth maxStr : Nat) (addr : Bytes) (r : Registry) (c : Caller) (data : Bytes) :
    Registry × Option Bytes :=
  match decU32 data with
  | none => (r, none)
  | some (xid, r1) =>
  match decU32 r1 with
  | none => (r, none)
  | some (mt, r2) =>
  if mt ≠ 0 then (r, none) else
  match decU32 r2 with
  | none => (r, none)
  | some (_, r3) =>
  match decU32 r3 with
  | none => (r, none)
  | some (prog, r4) =>
  match decU32 r4 with
  | none => (r, none)
  | some (vers, r5) =>
  match decU32 r5 with
  | none => (r, none)
  | some (proc, r6) =>
  match skipAuth maxAuth r6 with
  | none => (r, none)
  | some r7 =>
  match skipAuth maxAuth r7 with
  | none => (r, none)
  | some args =>
    if prog ≠ 100000 then (r, some (makeReply ck.mismatchInfo xid 1 []))
    else if vers ≠ 2 ∧ vers ≠ 3 ∧ vers ≠ 4 then (r, some (makeReply ck.mismatchInfo xid 2 []))
    else if vers = 2 then
      if proc = 0 then (r, some (makeReply ck.mismatchInfo xid 0 []))
      else if proc = 1 then let o := v2Set ck.v2Set r c args; (o.reg, some (makeReply ck.mismatchInfo xid 0 o.res))
      else if proc = 2 then let o := v2Unset ck.v2Unset r c args; (o.reg, some (makeReply ck.mismatchInfo xid 0 o.res))
      else if proc = 3 then (r, some (makeReply ck.mismatchInfo xid 0 (v2GetPort r args)))
      else if proc = 4 then (r, some (makeReply ck.mismatchInfo xid 0 (dumpV2 r)))
      else (r, some (makeReply ck.mismatchInfo xid 3 []))
    else
      if proc = 0 then (r, some (makeReply ck.mismatchInfo xid 0 []))
      else if proc = 1 then let o := rpcbSet ck.rpcbSet maxStr r c args; (o.reg, some (makeReply ck.mismatchInfo xid 0 o.res))
      else if proc = 2 then let o := rpcbUnset ck.rpcbUnset maxStr r c args; (o.reg, some (makeReply ck.mismatchInfo xid 0 o.res))
      else if proc = 3 then (r, some (makeReply ck.mismatchInfo xid 0 (rpcbGetAddr maxStr addr r args)))
      else if proc = 4 then (r, some (makeReply ck.mismatchInfo xid 0 (dumpRpcb addr r)))
      else (r, some (makeReply ck.mismatchInfo xid 3 []))

theorem handleCall_reg {ck : Checks} {maxStr : Nat} {r : Registry} {c : Caller}
    (h1 : ∀ args, (v2Set ck.v2Set r c args).reg = r) (h2 : ∀ args, (v2Unset ck.v2Unset r c args).reg = r)
    (h3 : ∀ args, (rpcbSet ck.rpcbSet maxStr r c args).reg = r)
    (h4 : ∀ args, (rpcbUnset ck.rpcbUnset maxStr r c args).reg = r) (maxAuth : Nat) (addr data : Bytes) :
    (handleCall ck maxAuth maxStr addr r c data).1 = r := by
  -- one case per path of `handleCall`: the registry is `r` itself or what one of the four SET/UNSET handlers returns
  fun_cases handleCall ck maxAuth maxStr addr r c data <;> simp +zetaDelta only [h1, h2, h3, h4]

/-- `st ≠ 2`: PROG_MISMATCH carries the version range 2..4 here, 3..3 in `encReply`. -/
theorem makeReply_eq_encReply (mi : Bool) (xid st : Nat) (data : Bytes) (h2 : st ≠ 2) (hd : st ≠ 0 → data = []) :
    makeReply mi xid st data =
      encReply { xid := xid, status := 0, acceptStatus := st, verf := ⟨0, []⟩, data := data } := by
  by_cases h0 : st = 0
  · subst h0; simp [makeReply, encReply, encOpaque, pad4, zeros]
  · simp [makeReply, encReply, encOpaque, pad4, zeros, h0, h2]

theorem decReply_makeReply (mi : Bool) (xid st : Nat) (data : Bytes) (maxAuth : Nat) (hx : xid < 4294967296)
    (hm : maxAuth < 4294967296) (hs : st ≤ 5) (h2 : st ≠ 2) (hd : st ≠ 0 → data = []) :
    decReply maxAuth (makeReply mi xid st data) =
      RpcReply.view { xid := xid, status := 0, acceptStatus := st, verf := ⟨0, []⟩, data := data } := by
  rw [makeReply_eq_encReply mi xid st data h2 hd]
  exact decReply_encReply maxAuth _ ⟨hx, Nat.zero_le 1, hs, Nat.zero_lt_succ _, Nat.zero_le maxAuth⟩ hm

def Uniq (r : Registry) : Prop := (r.map fun m => (m.prog, m.vers, m.prot)).Nodup

theorem sameKey_iff (m : Mapping) (p v t : Nat) : sameKey m p v t = true ↔ (m.prog, m.vers, m.prot) = (p, v, t) := by
  simp [sameKey, Prod.ext_iff, and_assoc]

theorem lookup_cons (m : Mapping) (ms : Registry) (p v t : Nat) :
    lookup (m :: ms) p v t = if sameKey m p v t then some m.port else lookup ms p v t := by
  simp only [lookup, List.find?_cons]
  cases sameKey m p v t <;> rfl

theorem lookup_eq_none_iff (r : Registry) (p v t : Nat) :
    lookup r p v t = none ↔ (p, v, t) ∉ r.map fun m => (m.prog, m.vers, m.prot) := by
  simp only [lookup, Option.map_eq_none_iff, List.find?_eq_none, sameKey_iff, List.mem_map, not_exists, not_and]

theorem lookup_register (r : Registry) (p v t port p' v' t' : Nat) :
    lookup (register r p v t port) p' v' t' = if (p, v, t) = (p', v', t') then some port else lookup r p' v' t' := by
  induction r with
  | nil => simp only [register, lookup_cons, sameKey_iff]
  | cons m ms ih =>
    simp only [register]
    by_cases h : sameKey m p v t = true
    · rw [if_pos h]
      simp only [lookup_cons, sameKey_iff, (sameKey_iff m p v t).mp h]
      split <;> rfl
    · rw [if_neg h]
      simp only [lookup_cons, ih]
      by_cases e : (p, v, t) = (p', v', t')
      · cases e
        rw [if_neg h, if_pos rfl, if_pos rfl]
      · rw [if_neg e, if_neg e]

theorem keys_register (r : Registry) (p v t port : Nat) :
    (register r p v t port).map (fun m => (m.prog, m.vers, m.prot)) =
      if (p, v, t) ∈ r.map (fun m => (m.prog, m.vers, m.prot)) then r.map (fun m => (m.prog, m.vers, m.prot))
      else r.map (fun m => (m.prog, m.vers, m.prot)) ++ [(p, v, t)] := by
  induction r with
  | nil => rfl
  | cons m ms ih =>
    simp only [register]
    by_cases h : sameKey m p v t = true
    · simp [h, (sameKey_iff m p v t).mp h]
    · have hk : (p, v, t) ≠ (m.prog, m.vers, m.prot) := fun e => h ((sameKey_iff m p v t).mpr e.symm)
      simp only [if_neg h, List.map_cons, ih, List.mem_cons, hk, false_or]
      split <;> rfl

theorem uniq_register (r : Registry) (p v t port : Nat) (h : Uniq r) : Uniq (register r p v t port) := by
  unfold Uniq at *
  rw [keys_register]
  split
  · exact h
  · rename_i hn
    refine List.nodup_append.mpr ⟨h, List.nodup_cons.mpr ⟨List.not_mem_nil, List.nodup_nil⟩, ?_⟩
    intro a ha b hb e
    rw [← e, List.mem_singleton] at hb
    exact hn (hb ▸ ha)

theorem uniq_unregister (r : Registry) (p v t : Nat) (h : Uniq r) : Uniq (unregister r p v t) :=
  List.Nodup.sublist ((List.eraseP_sublist).map _) h

theorem lookup_unregister_same (r : Registry) (p v t : Nat) (h : Uniq r) :
    lookup (unregister r p v t) p v t = none := by
  induction r with
  | nil => rfl
  | cons m ms ih =>
    obtain ⟨hm, hms⟩ := List.nodup_cons.mp h
    simp only [unregister, List.eraseP_cons]
    by_cases hs : sameKey m p v t = true
    · rw [hs, cond_true, lookup_eq_none_iff, ← (sameKey_iff m p v t).mp hs]
      exact hm
    · rw [Bool.not_eq_true] at hs
      rw [hs, cond_false, lookup_cons, hs]
      exact ih hms

end Portmap
end Absnfs
