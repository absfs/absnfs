/-
  ServerOwner: who ends up owning what (C11): which owners SETATTR's steps can change, and what the Chown (Lchown)
  that follows a successful MKDIR, SYMLINK or CREATE records. Props/C11 puts these along the paths of the procedures.
-/
import Absnfs.ServerCreate
namespace Absnfs
namespace Server
open Fs (ownerAt)

theorem nonroot_owner (c : Ctx) (sa : Sattr3) (h : c.uid ≠ 0) : ownerUid c sa = c.uid ∧ ownerGid c sa = c.gid := by
  unfold ownerUid ownerGid
  constructor <;> split <;> simp [h]

theorem root_owner (c : Ctx) (sa : Sattr3) (h : c.uid = 0) :
    ownerUid c sa = sa.uid.getD c.uid ∧ ownerGid c sa = sa.gid.getD c.gid := by
  unfold ownerUid ownerGid
  constructor
  · cases sa.uid <;> simp [h]
  · cases sa.gid <;> simp [h]

theorem setattrTarget_nonroot (c : Ctx) (sa : Sattr3) (a0 : Attrs) (h : c.uid ≠ 0) :
    (setattrTarget c sa a0).uid = a0.uid ∧ (setattrTarget c sa a0).gid = a0.gid := by
  unfold setattrTarget
  simp only [if_neg h]
  cases sa.mode <;> cases sa.uid <;> cases sa.gid <;> exact ⟨rfl, rfl⟩

variable {s s' s1 s2 : St} {c : Ctx} {h how : Nat} {n : Node} {a pre : Attrs} {name p verf : Bytes} {sa : Sattr3}
  {body : Rfc.Body} {f f1 : Fs.T} {i : Fs.Info} {e : Fs.Entry}

theorem chmodStep_owner (hm : chmodStep f i n a = .ok f1) (q : Fs.Path) :
    ownerAt f1 q = ownerAt f q ∧ Fs.contentAt f1 q = Fs.contentAt f q := by
  unfold chmodStep at hm
  split at hm
  · exact ⟨(Fs.chmod_upd hm).same _ q, (Fs.chmod_upd hm).same _ q⟩
  · cases hm; exact ⟨rfl, rfl⟩

theorem setAttrOp_same_owner {ts : Bool} {r : Option Nat} (heq : setAttrOp s h n a ts = (s', r))
    (hug : a.uid = n.attrs.uid ∧ a.gid = n.attrs.gid) (q : Fs.Path) : ownerAt s'.fs q = ownerAt s.fs q := by
  have skipped : ∀ {fs1 fs2 i}, chownStep fs1 i n a = .ok fs2 → fs2 = fs1 := by
    intro fs1 fs2 i ho
    unfold chownStep at ho
    rw [if_neg fun hne => hne.elim (· hug.1) (· hug.2)] at ho
    cases ho; rfl
  cases heq ▸ setAttrOp_run s h n a ts with
  | lstatFailed _ hr | chmodFailed _ _ hr => cases hr; rfl
  | chownFailed _ hm _ hr => cases hr; exact (chmodStep_owner hm q).1
  | chtimesFailed _ hm ho _ hr | ok _ hm ho _ hr => cases hr; cases skipped ho; exact (chmodStep_owner hm q).1

theorem setattrSize_owner {size : Option Nat} (hs : setattrSize s1 h n pre size = .ok s2) (q : Fs.Path) :
    ownerAt s2.fs q = ownerAt s1.fs q := by
  rcases setattrSize_ok hs with ⟨_, rfl⟩ | ⟨_, _, _, _, _, _, htr, rfl⟩
  · rfl
  · rw [refreshSize_fs]; exact (Fs.truncate_upd htr).same _ q

theorem setattrSize_nodeOf_owner {s1 s2 : St} {h : Nat} {n : Node} {pre : Attrs} {size : Option Nat}
    (hs : setattrSize s1 h n pre size = .ok s2) (n2 : Node) (hn2 : nodeOf s2 h = some n2) :
    ∃ n1, nodeOf s1 h = some n1 ∧ n2.attrs.uid = n1.attrs.uid ∧ n2.attrs.gid = n1.attrs.gid := by
  rcases setattrSize_ok hs with ⟨_, rfl⟩ | ⟨_, _, _, _, _, _, _, rfl⟩
  · exact ⟨n2, hn2, rfl, rfl⟩
  · unfold refreshSize at hn2
    split at hn2
    · exact ⟨n2, hn2, rfl, rfl⟩
    · rw [nodeOf_updNodeAt] at hn2
      obtain ⟨n1, hn1, rfl⟩ := Option.map_eq_some_iff.mp hn2
      exact ⟨n1, hn1, rfl, rfl⟩

theorem setattrApply_owner_nonroot (s2 : St) (c : Ctx) (h : Nat) (sa : Sattr3) (pre : Attrs) (hnr : c.uid ≠ 0) (q : Fs.Path) :
    ownerAt (setattrApply s2 c h sa pre).1.fs q = ownerAt s2.fs q := by
  cases setattrApply_run s2 c h sa pre with
  | noNode _ hr => rw [hr]
  | opFailed _ hop hr => rw [hr]; exact setAttrOp_same_owner hop (setattrTarget_nonroot c sa _ hnr) q
  | applied _ hop ht => rw [ht.acOnly.fs]; exact setAttrOp_same_owner hop (setattrTarget_nonroot c sa _ hnr) q

/-- the failure that is only logged does not happen: Chown cannot fail on an existing object that is not a link -/
theorem chownQuiet_owner (hwk : Fs.walk s.fs (fsPath p) = .ok e) (hk : e.kind ≠ .link) (u g : Nat) (q : Fs.Path) :
    ownerAt (chownQuiet s p u g).fs q = if q = fsPath p then some (u, g) else ownerAt s.fs q := by
  obtain ⟨fs1, hok⟩ := Fs.chown_ok_of_nonlink hwk hk u g
  unfold chownQuiet
  rw [hok]
  refine (((Fs.chown_upd hok).at_nonlink hwk hk).proj _ q).trans ?_
  rw [Fs.walk_ok_get hwk]; rfl

theorem lchownQuiet_owner (hwk : Fs.walk s.fs (fsPath p) = .ok e) (u g : Nat) (q : Fs.Path) :
    ownerAt (lchownQuiet s p u g).fs q = if q = fsPath p then some (u, g) else ownerAt s.fs q := by
  obtain ⟨fs1, hok⟩ := Fs.lchown_ok_of_walk hwk u g
  unfold lchownQuiet
  rw [hok]
  refine ((Fs.lchown_upd hok).proj _ q).trans ?_
  rw [Fs.walk_ok_get hwk]; rfl

/-- shared by MKDIR, SYMLINK and CREATE: the backend call makes the object at `P`, owned by 0:0; the Chown (Lchown)
    that follows reaches it -/
theorem owner_made {fs fs1 fs2 : Fs.T} {P : Fs.Path} {u g : Nat}
    (hmk : ∀ q, ownerAt fs1 q = if q = P then some (0, 0) else ownerAt fs q)
    (hch : ∀ q, ownerAt fs2 q = if q = P then some (u, g) else ownerAt fs1 q) :
    ownerAt fs2 P = some (u, g) ∧ ∀ q, q ≠ P → ownerAt fs2 q = ownerAt fs q :=
  ⟨by rw [hch, if_pos rfl], fun q hq => by rw [hch, if_neg hq, hmk, if_neg hq]⟩

theorem createNew_owner {mode : Nat} {err : Fs.Errno} (hw : Fs.WF s1.fs)
    (hmiss : Fs.lstat s1.fs (fsPath (joinName n.path name)) = .error err)
    (heq : createNew s1 c n pre name mode how sa verf = (s', .res ⟨0, body⟩)) :
    ownerAt s'.fs (fsPath (joinName n.path name)) = some (ownerUid c sa, ownerGid c sa) ∧
    ∀ q, q ≠ fsPath (joinName n.path name) → ownerAt s'.fs q = ownerAt s1.fs q := by
  cases heq ▸ createNew_run s1 c n pre name mode how sa verf with
  | opFailed _ hr => exact (errno_not_ok hr).elim
  | @made s2 node hop ht =>
    cases hop ▸ createOp_fresh s1 c.now n name mode hw hmiss with
    | failed hr => cases hr
    | @made fs1 fs2 e hc hm hu hk hr =>
      have hwe := hu.walk hw rfl
      -- the Lookup and the remembered verifier leave the backend alone: CREATE's Chown finds the new file
      have hs3 : ∀ x, (if how = 2 then rememberExclusive s2 x verf else s2).fs = fs2 := fun _ =>
        (apply_ite St.fs ..).trans ((ite_self _).trans (lookupPath_acOnly hr.symm).fs)
      have hfs : s'.fs = _ := ht.fs
      rw [hfs, lookupPath_path hr.symm]
      refine owner_made (fun q => ((Fs.chmod_upd hm).same _ q).trans ((Fs.create_new_upd (Fs.lstat_err_walk hmiss) hc).proj _ q))
        fun q => ?_
      rw [← hs3 (joinName n.path name)] at hwe ⊢
      exact chownQuiet_owner hwe (by rw [hk]; decide) _ _ q

theorem createExisting_owner {info : Fs.Info} {o : Outcome} (heq : createExisting s1 c n pre p info how sa verf = (s', o))
    (q : Fs.Path) : ownerAt s'.fs q = ownerAt s1.fs q := by
  rcases createExisting_fs s1 c n pre p info how sa verf with h | ⟨_, _, _, _, htr⟩
  · rw [heq] at h; exact congrArg (ownerAt · q) h
  · rw [heq] at htr; exact (Fs.truncate_upd htr).same _ q

end Server
end Absnfs
