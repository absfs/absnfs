/-
  ServerFrame: what each building block can change. `AcOnly s s'` — only the attribute cache differs — is what the
  read-side blocks (`lookupPath`, `getAttr`, `getAttrOr`, `lookupEach`, `refreshEach`) do to the state, and the frames
  of single fields are its projections (`readDir`: the two caches, `readDir_acOnly`). Next to each block's frame: what
  its result says (`lookupPath_path`, `getAttr_ok`, `getAttr_err`, `getAttr_pre_walk`, …). The three loops are stated as
  loops once: `lookupEach_induct`, `refreshEach_induct`, `fillDirPlus_induct` (what every step keeps holds at the end),
  `refreshEach_snd` (the refreshed listing is `map (refreshed fs)`). Last, `Unseen s s'` — the caches, the
  handle table and what Lstat shows are as they were — is what the steps around a backend call do: the Chown after a
  creation, the remembered verifier, the refreshed size. The two relations are complementary: an `AcOnly` step changes the
  attribute cache and nothing else, an `Unseen` step leaves both caches as they are.
-/
import Absnfs.ServerRun
import Absnfs.ServerOpRun
namespace Absnfs
namespace Server

@[simp] theorem acGet_fs (s : St) (now : Nat) (p : Bytes) : (acGet s now p).1.fs = s.fs := rfl
@[simp] theorem acGet_cfg (s : St) (now : Nat) (p : Bytes) : (acGet s now p).1.cfg = s.cfg := rfl
@[simp] theorem acPut_fs (s : St) (now : Nat) (p : Bytes) (a : Attrs) : (acPut s now p a).fs = s.fs := rfl
@[simp] theorem acPut_cfg (s : St) (now : Nat) (p : Bytes) (a : Attrs) : (acPut s now p a).cfg = s.cfg := rfl
@[simp] theorem acPutNeg_fs (s : St) (now : Nat) (p : Bytes) : (acPutNeg s now p).fs = s.fs := rfl
@[simp] theorem acPutNeg_cfg (s : St) (now : Nat) (p : Bytes) : (acPutNeg s now p).cfg = s.cfg := rfl
@[simp] theorem acInv_fs (s : St) (p : Bytes) : (acInv s p).fs = s.fs := rfl
@[simp] theorem acInv_cfg (s : St) (p : Bytes) : (acInv s p).cfg = s.cfg := rfl
@[simp] theorem setNode_fs (s : St) (h : Nat) (a : Attrs) : (setNode s h a).fs = s.fs := rfl
@[simp] theorem setNode_cfg (s : St) (h : Nat) (a : Attrs) : (setNode s h a).cfg = s.cfg := rfl
@[simp] theorem allocate_fs (s : St) (n : Node) : (allocate s n).1.fs = s.fs := rfl
@[simp] theorem allocate_cfg (s : St) (n : Node) : (allocate s n).1.cfg = s.cfg := rfl
@[simp] theorem updNodeAt_fs (s : St) (h : Nat) (f : Attrs → Attrs) : (updNodeAt s h f).fs = s.fs := rfl

structure AcOnly (s s' : St) : Prop where
  fs : s'.fs = s.fs
  hs : s'.hs = s.hs
  nodes : s'.nodes = s.nodes
  dc : s'.dc = s.dc
  excl : s'.excl = s.excl
  cfg : s'.cfg = s.cfg

theorem AcOnly.refl (s : St) : AcOnly s s := ⟨rfl, rfl, rfl, rfl, rfl, rfl⟩

theorem AcOnly.of_ac (s : St) (ac : Lru.Cache Attrs) : AcOnly s { s with ac := ac } := ⟨rfl, rfl, rfl, rfl, rfl, rfl⟩

theorem AcOnly.trans {a b c : St} (h1 : AcOnly a b) (h2 : AcOnly b c) : AcOnly a c :=
  ⟨h2.fs.trans h1.fs, h2.hs.trans h1.hs, h2.nodes.trans h1.nodes, h2.dc.trans h1.dc, h2.excl.trans h1.excl,
    h2.cfg.trans h1.cfg⟩

theorem AcOnly.nodeOf {s s' : St} (h : AcOnly s s') (fh : Nat) : nodeOf s' fh = nodeOf s fh := by
  unfold Server.nodeOf; rw [h.hs, h.nodes]

theorem AcOnly.of_eq {s s' : St} (h : s' = { s with ac := s'.ac }) : AcOnly s s' := h ▸ .of_ac s s'.ac

theorem lookupPath_acOnly {s s' : St} {now : Nat} {p : Bytes} {r : Except Fs.Errno Node}
    (h : lookupPath s now p = (s', r)) : AcOnly s s' := by
  have : (lookupPath s now p).1 = { s with ac := (lookupPath s now p).1.ac } := by
    unfold lookupPath
    split
    · rfl
    simp only
    repeat' split
    all_goals rfl
  rw [h] at this
  exact .of_eq this

theorem lookupPath_path {s s' : St} {now : Nat} {p : Bytes} {node : Node} (h : lookupPath s now p = (s', .ok node)) :
    node.path = p := by
  cases h ▸ lookupPath_run s now p with
  | empty _ hr | neg _ _ hr | absent _ _ _ hr => cases hr
  | hit _ _ hr | found _ _ _ hr => cases hr; rfl

theorem getAttr_acOnly {s s' : St} {now : Nat} {n : Node} {r : Except Fs.Errno Attrs}
    (h : getAttr s now n = (s', r)) : AcOnly s s' := by
  cases h ▸ getAttr_run s now n with
  | failed _ hr | ok _ hr => cases hr; exact .of_ac ..

theorem getAttr_ok {s : St} {now : Nat} {n : Node} {s' : St} {a : Attrs} (h : getAttr s now n = (s', .ok a)) :
    ∃ i, Fs.lstat s.fs (fsPath n.path) = .ok i ∧ a = attrsOfInfo i (fnv64 n.path) n.attrs.uid n.attrs.gid := by
  cases h ▸ getAttr_run s now n with
  | failed _ hr => cases hr
  | ok hl hr => cases hr; exact ⟨_, hl, rfl⟩

theorem getAttr_err {s : St} {now : Nat} {n : Node} {s' : St} {e : Fs.Errno} (h : getAttr s now n = (s', .error e)) :
    Fs.lstat s.fs (fsPath n.path) = .error e := by
  cases h ▸ getAttr_run s now n with
  | failed hl hr => cases hr; exact hl
  | ok _ hr => cases hr

theorem getAttr_pre_walk {s s1 : St} {now : Nat} {n : Node} {pre : Attrs} (heq : getAttr s now n = (s1, .ok pre)) :
    ∃ e, Fs.walk s1.fs (fsPath n.path) = .ok e ∧ e.kind = pre.kind := by
  obtain ⟨i, hi, ha⟩ := getAttr_ok heq
  obtain ⟨e, hwe, hie⟩ := Fs.lstat_ok_walk hi
  exact ⟨e, by rw [(getAttr_acOnly heq).fs]; exact hwe, by rw [ha, ← hie]; rfl⟩

theorem getAttr_ok_lstat {s s1 : St} {now : Nat} {n : Node} {pre : Attrs} (hg : getAttr s now n = (s1, .ok pre)) : ∃ i, Fs.lstat s1.fs (fsPath n.path) = .ok i :=
  let ⟨_, hwe, _⟩ := getAttr_pre_walk hg
  ⟨_, Fs.lstat_of_walk hwe⟩

theorem getAttr_not_error {s s' : St} {now : Nat} {n : Node} {e : Fs.Errno} (hi : ∃ i, Fs.lstat s.fs (fsPath n.path) = .ok i)
    (hg : getAttr s now n = (s', .error e)) : False := by
  obtain ⟨_, hi⟩ := hi
  rw [getAttr_err hg] at hi
  cases hi

theorem getAttrOr_acOnly {s s' : St} {now : Nat} {n : Node} {d a : Attrs}
    (h : getAttrOr s now n d = (s', a)) : AcOnly s s' := by
  unfold getAttrOr at h
  split at h <;> (cases h; exact getAttr_acOnly ‹_›)

theorem getAttrOr_fs (s : St) (now : Nat) (n : Node) (d : Attrs) : (getAttrOr s now n d).1.fs = s.fs := (getAttrOr_acOnly rfl).fs

theorem getAttrOr_hs (s : St) (now : Nat) (n : Node) (d : Attrs) : (getAttrOr s now n d).1.hs = s.hs := (getAttrOr_acOnly rfl).hs

theorem getAttrOr_cfg (s : St) (now : Nat) (n : Node) (d : Attrs) : (getAttrOr s now n d).1.cfg = s.cfg :=
  (getAttrOr_acOnly rfl).cfg

theorem AttrThen.acOnly {s : St} {now : Nat} {n : Node} {fail : Rfc.Body} {k : Attrs → Outcome} {r : St × Outcome}
    (ht : AttrThen s now n fail k r) : AcOnly s r.1 := by
  cases ht with
  | failed hg hr | ok hg hr => rw [hr]; exact getAttr_acOnly hg

theorem MadeThen.fs {s : St} {c : Ctx} {n : Node} {pre : Attrs} {node : Node} {r : St × Outcome}
    (ht : MadeThen s c n pre node r) : r.1.fs = s.fs := by
  cases ht with
  | postFailed hg hr | ok hg hr => rw [hr]; exact (getAttr_acOnly hg).fs

theorem lookupDirAttr_fst (s : St) (now : Nat) (n : Node) (k : Attrs → Outcome) :
    (lookupDirAttr s now n k).1 = (getAttrOr s now n n.attrs).1 := rfl

theorem lookupDirAttr_snd (s : St) (now : Nat) (n : Node) (k : Attrs → Outcome) :
    (lookupDirAttr s now n k).2 = k (getAttrOr s now n n.attrs).2 := rfl

theorem lookupEach_induct {now : Nat} {dir : Bytes} {P : St → Prop} {Q : Node → Prop}
    (step : ∀ {s x p s1 r}, ¬(x = [46] ∨ x = [46, 46] ∨ x = [] ∨ x.contains 47 ∨ x.contains 92) → sanitize dir x = some p →
      lookupPath s now p = (s1, r) → P s → P s1 ∧ ∀ node, r = .ok node → Q node)
    (s : St) (names : List Bytes) (h : P s) :
    P (lookupEach s now dir names).1 ∧ ∀ n ∈ (lookupEach s now dir names).2, Q n := by
  -- case2: the name is filtered out; case3: `sanitize` refuses it; case4: Lookup fails; case5: Lookup returns a node
  fun_induction lookupEach s now dir names with
  | case1 => exact ⟨h, nofun⟩
  | case2 _ _ _ _ ih | case3 _ _ _ _ _ ih => exact ih h
  | case4 _ _ _ hx _ hp _ _ hl ih => exact ih (step hx hp hl h).1
  | case5 _ _ _ hx _ hp _ node hl _ ih =>
    obtain ⟨h1, hq⟩ := step hx hp hl h
    exact ⟨(ih h1).1, List.forall_mem_cons.mpr ⟨hq node rfl, (ih h1).2⟩⟩

theorem lookupEach_acOnly (s : St) (now : Nat) (dir : Bytes) (names : List Bytes) :
    AcOnly s (lookupEach s now dir names).1 :=
  (lookupEach_induct (P := AcOnly s) (Q := fun _ => True)
    (fun _ _ hl h => ⟨h.trans (lookupPath_acOnly hl), fun _ _ => trivial⟩) s names (.refl s)).1

theorem lookupEach_cfg (s : St) (now : Nat) (dir : Bytes) (names : List Bytes) :
    (lookupEach s now dir names).1.cfg = s.cfg := (lookupEach_acOnly ..).cfg

theorem readDir_acOnly {s s' : St} {now : Nat} {d : Node} {r : Except Fs.Errno (List Node)} (h : readDir s now d = (s', r)) :
    ∃ dc, AcOnly { s with dc := dc } s' := by
  cases h ▸ readDir_run s now d with
  | failed _ hr => cases hr; exact ⟨_, .refl _⟩
  | cached _ _ hr | listed _ hr => cases hr; exact ⟨_, lookupEach_acOnly ..⟩

theorem refreshEach_induct {P : St → Prop} {now : Nat} {l : List Node}
    (get : ∀ {s} (n : Node), n ∈ l → P s → P (acGet s now n.path).1)
    (put : ∀ {s} (n : Node) (i : Fs.Info), n ∈ l → Fs.lstat s.fs (fsPath n.path) = .ok i → P s →
      P (acPut s now n.path (attrsOfInfo i n.attrs.fileId n.attrs.uid n.attrs.gid)))
    {s : St} (h : P s) : P (refreshEach s now l).1 := by
  -- case2: Lstat fails, the node stays as it is; case3: Lstat answers and is stored; `hg : acGet s now n.path = (s1, _)`
  fun_induction refreshEach s now l with
  | case1 => exact h
  | case2 s n ns _ _ hg _ _ _ ih =>
    cases hg
    exact ih (fun m hm => get m (List.mem_cons_of_mem _ hm)) (fun m i hm => put m i (List.mem_cons_of_mem _ hm))
      (get n (List.mem_cons_self ..) h)
  | case3 s n ns _ _ hg i hl _ _ ih =>
    cases hg
    exact ih (fun m hm => get m (List.mem_cons_of_mem _ hm)) (fun m i hm => put m i (List.mem_cons_of_mem _ hm))
      (put n i (List.mem_cons_self ..) hl (get n (List.mem_cons_self ..) h))

theorem refreshEach_acOnly (s : St) (now : Nat) (l : List Node) : AcOnly s (refreshEach s now l).1 :=
  refreshEach_induct (P := AcOnly s) (fun _ _ h => h.trans (.of_ac ..)) (fun _ _ _ _ h => h.trans (.of_ac ..)) (.refl s)

theorem refreshEach_fs (s : St) (now : Nat) (l : List Node) : (refreshEach s now l).1.fs = s.fs :=
  (refreshEach_acOnly ..).fs

def refreshed (fs : Fs.T) (n : Node) : Node :=
  match Fs.lstat fs (fsPath n.path) with
  | .error _ => n
  | .ok i => { n with attrs := attrsOfInfo i n.attrs.fileId n.attrs.uid n.attrs.gid }

theorem refreshEach_snd (s : St) (now : Nat) (l : List Node) : (refreshEach s now l).2 = l.map (refreshed s.fs) := by
  fun_induction refreshEach s now l with
  | case1 => rfl
  | case2 s n ns s1 _ hg e hl _ ih =>
    cases hg
    -- `hl` speaks of `(acGet s now n.path).1.fs`, which is `s.fs` by `rfl`; `simp` needs it in this form
    have hl : Fs.lstat s.fs (fsPath n.path) = .error e := hl
    simp only [List.map_cons, refreshed, hl]
    exact congrArg _ ih
  | case3 s n ns s1 _ hg i hl a _ ih =>
    cases hg
    have hl : Fs.lstat s.fs (fsPath n.path) = .ok i := hl
    simp only [List.map_cons, refreshed, hl]
    exact congrArg _ ih

theorem refreshed_path (fs : Fs.T) (n : Node) : (refreshed fs n).path = n.path := by unfold refreshed; split <;> rfl

theorem refreshed_fileId (fs : Fs.T) (n : Node) : (refreshed fs n).attrs.fileId = n.attrs.fileId := by
  unfold refreshed; split <;> rfl

theorem fillDirPlus_induct {P : St → Prop} {l : List Node} (step : ∀ {s} (x : Node), x ∈ l → P s → P (allocate s x).1)
    (limit cookie : Nat) {s : St} (i used cnt : Nat) (h : P s) : P (fillDirPlus limit cookie s i used cnt l).1 := by
  -- case2: an entry before the cookie; case3: the entry does not fit; case4, case5: a handle is allocated (`hal`) and
  -- the rest of the loop (`hrec`) answers `tooSmall`, `done`
  fun_induction fillDirPlus limit cookie s i used cnt l with
  | case1 | case3 => exact h
  | case2 _ _ _ _ _ _ _ ih => exact ih (fun x hx => step x (List.mem_cons_of_mem _ hx)) h
  | case4 _ _ _ _ x _ _ _ _ _ _ hal _ hrec ih | case5 _ _ _ _ x _ _ _ _ _ _ hal _ _ _ hrec ih =>
    have h1 := step x (List.mem_cons_self ..) h
    rw [hal] at h1
    have := ih (fun x hx => step x (List.mem_cons_of_mem _ hx)) h1
    rwa [hrec] at this

theorem fillDirPlus_ac (limit cookie : Nat) (s : St) (i used cnt : Nat) (l : List Node) :
    (fillDirPlus limit cookie s i used cnt l).1.ac = s.ac ∧ (fillDirPlus limit cookie s i used cnt l).1.fs = s.fs :=
  fillDirPlus_induct (P := fun t => t.ac = s.ac ∧ t.fs = s.fs) (fun _ _ h => h) limit cookie i used cnt ⟨rfl, rfl⟩

theorem symlinkOp_path {s s' : St} {now : Nat} {dir : Node} {name target : Bytes} {node : Node}
    (h : symlinkOp s now dir name target = (s', .ok node)) : node.path = joinName dir.path name := by
  cases h ▸ symlinkOp_run s now dir name target with
  | dotdot _ hr | failed _ hr => cases hr
  | made _ hr => exact lookupPath_path hr.symm

theorem createOp_path {s s' : St} {now : Nat} {dir : Node} {name : Bytes} {perm : Nat} {node : Node}
    (h : createOp s now dir name perm = (s', .ok node)) : node.path = joinName dir.path name := by
  cases h ▸ createOp_run s now dir name perm with
  | dotdot _ hr | createFailed _ hr | chmodFailed _ _ hr => cases hr
  | made _ _ hr => exact lookupPath_path hr.symm

@[simp] theorem invalidateForNew_fs (s : St) (d p : Bytes) : (invalidateForNew s d p).fs = s.fs := rfl

/-- the two caches, the handle table and the configuration are as they were, and Lstat shows the same at every path; the
    owners the backend records, the attributes kept with the handles and the verifiers CREATE remembers may differ. The
    Chown (Lchown) after a creation, `rememberExclusive`, `updNodeAt` and `refreshSize` are such steps. -/
structure Unseen (s s' : St) : Prop where
  view : ∀ q, Fs.viewAt s'.fs q = Fs.viewAt s.fs q
  wf : Fs.WF s.fs → Fs.WF s'.fs
  ac : s'.ac = s.ac
  dc : s'.dc = s.dc
  hs : s'.hs = s.hs
  cfg : s'.cfg = s.cfg

theorem Unseen.refl (s : St) : Unseen s s := ⟨fun _ => rfl, id, rfl, rfl, rfl, rfl⟩

theorem Unseen.trans {a b c : St} (h1 : Unseen a b) (h2 : Unseen b c) : Unseen a c :=
  ⟨fun q => (h2.view q).trans (h1.view q), h2.wf ∘ h1.wf, h2.ac.trans h1.ac, h2.dc.trans h1.dc, h2.hs.trans h1.hs,
    h2.cfg.trans h1.cfg⟩

theorem Unseen.of_fs {s : St} {fs1 : Fs.T} (hv : ∀ q, Fs.viewAt fs1 q = Fs.viewAt s.fs q) (hw : Fs.WF s.fs → Fs.WF fs1) :
    Unseen s { s with fs := fs1 } := ⟨hv, hw, rfl, rfl, rfl, rfl⟩

theorem chownQuiet_unseen (s : St) (p : Bytes) (u g : Nat) : Unseen s (chownQuiet s p u g) := by
  unfold chownQuiet
  split
  · exact .of_fs ((Fs.chown_upd ‹_›).same _) (Fs.chown_upd ‹_›).wf
  · exact .refl s

theorem lchownQuiet_unseen (s : St) (p : Bytes) (u g : Nat) : Unseen s (lchownQuiet s p u g) := by
  unfold lchownQuiet
  split
  · exact .of_fs ((Fs.lchown_upd ‹_›).same _) (Fs.lchown_upd ‹_›).wf
  · exact .refl s

theorem remembered_unseen (s : St) (c : Prop) [Decidable c] (p verf : Bytes) :
    Unseen s (if c then rememberExclusive s p verf else s) := by
  split
  · exact ⟨fun _ => rfl, id, rfl, rfl, rfl, rfl⟩
  · exact .refl s

theorem updNodeAt_unseen (s : St) (h : Nat) (f : Attrs → Attrs) : Unseen s (updNodeAt s h f) :=
  ⟨fun _ => rfl, id, rfl, rfl, rfl, rfl⟩

theorem refreshSize_unseen (s : St) (h : Nat) (p : Bytes) : Unseen s (refreshSize s h p) := by
  unfold refreshSize
  split
  · exact .refl s
  · exact updNodeAt_unseen ..

theorem refreshSize_fs (s : St) (h : Nat) (p : Bytes) : (refreshSize s h p).fs = s.fs := by
  unfold refreshSize; split <;> rfl

theorem nodeOf_updNodeAt (s : St) (h : Nat) (f : Attrs → Attrs) :
    nodeOf (updNodeAt s h f) h = (nodeOf s h).map fun n => { n with attrs := f n.attrs } := by
  unfold nodeOf updNodeAt
  cases Handles.get s.hs h with
  | none => rfl
  | some p =>
    -- the rewriting keeps every handle id, so `find?` stops at the same element
    have hkey : ((fun x : Nat × Attrs => x.1 == h) ∘ fun x => if x.1 = h then (x.1, f x.2) else x) = fun x => x.1 == h := by
      funext x
      simp only [Function.comp_apply]
      split <;> rfl
    simp only [List.find?_map, hkey]
    cases hf : s.nodes.find? (fun x => x.1 == h) with
    | none => rfl
    | some x =>
      have hx : x.1 = h := by simpa using List.find?_some hf
      simp [hx]

end Server
end Absnfs
