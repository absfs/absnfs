/-
  Byte-level order-independence of WriteAt (C29, C01): writes to disjoint ranges of one file commute, a range
  written once keeps its payload through any number of later writes elsewhere in the file, and of two writes
  to the same range the later one wins. These are what make "the READ after the completed WRITEs" have one
  answer whatever serial order the concurrent WRITEs took.
-/
import Absnfs.Fs

namespace Absnfs.Fs

theorem bytes_ext_getD {a b : Bytes} (hl : a.length = b.length)
    (h : ∀ i, i < a.length → a.getD i 0 = b.getD i 0) : a = b := by
  apply List.ext_getElem hl
  intro i h1 h2
  have := h i h1
  simp only [List.getD_eq_getElem?_getD, List.getElem?_eq_getElem h1, List.getElem?_eq_getElem h2,
    Option.getD_some] at this
  exact this

theorem ite_ite_comm_of_not_and {α : Type} {A B : Prop} [Decidable A] [Decidable B] (h : ¬ (A ∧ B)) (x y z : α) :
    (if B then y else if A then x else z) = (if A then x else if B then y else z) := by
  by_cases hA : A <;> by_cases hB : B <;> simp only [hA, hB, if_true, if_false]
  exact absurd ⟨hA, hB⟩ h

theorem writeBytes_comm_disjoint (d : Bytes) (o1 o2 : Nat) (w1 w2 : Bytes) (h1 : w1 ≠ []) (h2 : w2 ≠ [])
    (hd : o1 + w1.length ≤ o2 ∨ o2 + w2.length ≤ o1) :
    writeBytes (writeBytes d o1 w1) o2 w2 = writeBytes (writeBytes d o2 w2) o1 w1 := by
  apply bytes_ext_getD
  · simp only [writeBytes_length _ _ _ h1, writeBytes_length _ _ _ h2]
    rw [Nat.max_assoc, Nat.max_assoc, Nat.max_comm (o1 + _)]
  · intro i _
    simp only [writeBytes_getD]
    exact ite_ite_comm_of_not_and (by omega) ..

theorem writeBytes_overwrite (d : Bytes) (o : Nat) (w1 w2 : Bytes) (h1 : w1 ≠ []) (h2 : w2 ≠ [])
    (hl : w1.length = w2.length) :
    writeBytes (writeBytes d o w1) o w2 = writeBytes d o w2 := by
  apply bytes_ext_getD
  · simp only [writeBytes_length _ _ _ h1, writeBytes_length _ _ _ h2, hl]
    rw [Nat.max_assoc, Nat.max_self]
  · intro i _
    simp only [writeBytes_getD, hl]
    split <;> rfl

def Holds (d : Bytes) (o : Nat) (w : Bytes) : Prop :=
  o + w.length ≤ d.length ∧ ∀ i, i < w.length → d.getD (o + i) 0 = w.getD i 0

theorem holds_after_write (d : Bytes) (o : Nat) (w : Bytes) (hw : w ≠ []) : Holds (writeBytes d o w) o w := by
  refine ⟨by rw [writeBytes_length _ _ _ hw]; exact Nat.le_max_right .., fun i hi => ?_⟩
  rw [writeBytes_getD, if_pos ⟨Nat.le_add_right o i, Nat.add_lt_add_left hi o⟩, Nat.add_sub_cancel_left]

theorem writeBytes_length_ge (d : Bytes) (off : Nat) (w : Bytes) : d.length ≤ (writeBytes d off w).length := by
  by_cases hw : w = []
  · simp only [writeBytes, hw, if_true]; exact Nat.le_refl _
  · rw [writeBytes_length _ _ _ hw]; exact Nat.le_max_left ..

theorem holds_kept {d : Bytes} {o : Nat} {w : Bytes} (h : Holds d o w) (o' : Nat) (w' : Bytes)
    (hd : o' + w'.length ≤ o ∨ o + w.length ≤ o') : Holds (writeBytes d o' w') o w := by
  refine ⟨Nat.le_trans h.1 (writeBytes_length_ge d o' w'), fun i hi => ?_⟩
  rw [writeBytes_getD, if_neg (by omega)]
  exact h.2 i hi

theorem holds_slice {d : Bytes} {o : Nat} {w : Bytes} (h : Holds d o w) : slice d o w.length = w := by
  have hlen : (slice d o w.length).length = w.length := by rw [slice_length]; have := h.1; omega
  apply bytes_ext_getD hlen
  intro i hi
  rw [hlen] at hi
  rw [slice_getD _ _ _ _ hi]
  exact h.2 i hi

def writeAll (d : Bytes) (ws : List (Nat × Bytes)) : Bytes := ws.foldl (fun d x => writeBytes d x.1 x.2) d

theorem holds_writeAll {d : Bytes} {o : Nat} {w : Bytes} (h : Holds d o w) (ws : List (Nat × Bytes))
    (hdis : ∀ x ∈ ws, x.1 + x.2.length ≤ o ∨ o + w.length ≤ x.1) :
    Holds (writeAll d ws) o w := by
  induction ws generalizing d with
  | nil => exact h
  | cons x xs ih =>
    exact ih (holds_kept h x.1 x.2 (hdis x List.mem_cons_self)) (fun y hy => hdis y (List.mem_cons_of_mem _ hy))

theorem range_survives_disjoint_writes (d : Bytes) (o : Nat) (w : Bytes) (hw : w ≠ []) (ws : List (Nat × Bytes))
    (hdis : ∀ x ∈ ws, x.2 ≠ [] ∧ (x.1 + x.2.length ≤ o ∨ o + w.length ≤ x.1)) :
    slice (writeAll (writeBytes d o w) ws) o w.length = w :=
  holds_slice (holds_writeAll (holds_after_write d o w hw) ws fun x hx => (hdis x hx).2)

theorem slice_writeBytes_self (d : Bytes) (off : Nat) (w : Bytes) (hw : w ≠ []) :
    slice (writeBytes d off w) off w.length = w :=
  holds_slice (holds_after_write d off w hw)

def Disj (x y : Nat × Bytes) : Prop := x.1 + x.2.length ≤ y.1 ∨ y.1 + y.2.length ≤ x.1

theorem Disj.symm {x y : Nat × Bytes} (h : Disj x y) : Disj y x := Or.symm h

theorem writeAll_perm {ws ws' : List (Nat × Bytes)} (hp : ws.Perm ws') (hdis : ws.Pairwise Disj)
    (hne : ∀ x ∈ ws, x.2 ≠ []) (d : Bytes) : writeAll d ws = writeAll d ws' := by
  induction hp generalizing d with
  | nil => rfl
  | cons x _ ih =>
    simp only [writeAll, List.foldl_cons]
    exact ih (List.Pairwise.of_cons hdis) (fun y hy => hne y (List.mem_cons_of_mem _ hy)) _
  | swap x y l =>
    simp only [writeAll, List.foldl_cons]
    have hy := hne y List.mem_cons_self
    have hx := hne x (List.mem_cons_of_mem _ List.mem_cons_self)
    have hxy : Disj y x := (List.pairwise_cons.mp hdis).1 x List.mem_cons_self
    rw [writeBytes_comm_disjoint d y.1 x.1 y.2 x.2 hy hx hxy]
  | trans p1 _ ih1 ih2 =>
    rw [ih1 hdis hne d]
    exact ih2 ((p1.pairwise_iff Disj.symm).mp hdis) (fun y hy => hne y (p1.mem_iff.mpr hy)) d

theorem writeAll_length_ge (d : Bytes) (ws : List (Nat × Bytes)) : d.length ≤ (writeAll d ws).length := by
  induction ws generalizing d with
  | nil => exact Nat.le_refl _
  | cons x xs ih =>
    simp only [writeAll, List.foldl_cons]
    exact Nat.le_trans (writeBytes_length_ge d x.1 x.2) (ih _)

theorem writeAll_covers_every_write (d : Bytes) (ws : List (Nat × Bytes)) (x : Nat × Bytes) (hx : x ∈ ws) (hne : x.2 ≠ []) :
    x.1 + x.2.length ≤ (writeAll d ws).length := by
  induction ws generalizing d with
  | nil => cases hx
  | cons y ys ih =>
    simp only [writeAll, List.foldl_cons]
    cases List.mem_cons.mp hx with
    | inl h =>
      subst h
      exact Nat.le_trans (holds_after_write d x.1 x.2 hne).1 (writeAll_length_ge _ ys)
    | inr h => exact ih _ h

theorem truncBytes_writeBytes_comm (d : Bytes) (o : Nat) (w : Bytes) (n : Nat) (hw : w ≠ []) (h : o + w.length ≤ n) :
    truncBytes (writeBytes d o w) n = writeBytes (truncBytes d n) o w := by
  apply bytes_ext_getD
  · rw [truncBytes_length, writeBytes_length _ _ _ hw, truncBytes_length]; omega
  · intro i hi
    rw [truncBytes_length] at hi
    rw [truncBytes_getD, writeBytes_getD, writeBytes_getD, truncBytes_getD]
    simp only [hi, if_true]

/-- so for a WRITE racing a SETATTR(size) below its end the harness's oracle accepts either serial outcome (C29) -/
theorem trunc_then_write_differs (d : Bytes) (o : Nat) (w : Bytes) (n : Nat) (hw : w ≠ []) (h : n < o + w.length) :
    (truncBytes (writeBytes d o w) n).length ≠ (writeBytes (truncBytes d n) o w).length := by
  rw [truncBytes_length, writeBytes_length _ _ _ hw, truncBytes_length]; omega

end Absnfs.Fs
