/-
  ServerOpRun: the paths of the operations the procedures call (operations.go), walked once, in the style of
  `ServerRun`. GetAttr, Lookup, ReadDir, Create, Symlink and SetAttr get an `x_run` that lists, per path, the backend
  calls that were made and the resulting state as an explicit term (their steps are named: `dcTouched`, `dcStored`,
  `chmodStep`, `chownStep`, `chtimesStep`); Remove, Rename, Write and the size part of SETATTR get an `_ok` lemma: what
  a successful call did (`renamed`, `refreshSize`). On a well-formed backend two of them have fewer paths, because a
  backend call on an entry that was just made or found cannot fail: Create of a name Lstat does not find
  (`createOp_fresh`; `MakeRun` is what that Create and Symlink have in common) and SetAttr (`setAttrOp_wf`).
-/
import Absnfs.Server
import Absnfs.FsFrame
namespace Absnfs
namespace Server

theorem sanitize_some {dir n p : Bytes} (h : sanitize dir n = some p) : p = joinName dir n := by
  unfold sanitize at h
  simp only at h
  split at h
  · cases h
  · exact (Option.some.inj h).symm

inductive GetAttrRun (s : St) (now : Nat) (n : Node) (r : St × Except Fs.Errno Attrs) : Prop
  | failed {e} (hl : Fs.lstat s.fs (fsPath n.path) = .error e) (hr : r = ((acGet s now n.path).1, .error e))
  | ok {i} (hl : Fs.lstat s.fs (fsPath n.path) = .ok i)
      (hr : r = (acPut (acGet s now n.path).1 now n.path (attrsOfInfo i (fnv64 n.path) n.attrs.uid n.attrs.gid),
        .ok (attrsOfInfo i (fnv64 n.path) n.attrs.uid n.attrs.gid)))

theorem getAttr_run (s : St) (now : Nat) (n : Node) : GetAttrRun s now n (getAttr s now n) := by
  unfold getAttr
  simp only
  split
  · exact .failed ‹_› rfl
  · exact .ok ‹_› rfl

inductive LookupPathRun (s : St) (now : Nat) (p : Bytes) (r : St × Except Fs.Errno Node) : Prop
  | empty (hp : p = []) (hr : r = (s, .error .EIO))
  | hit {a} (hp : p ≠ []) (hg : (Lru.get s.ac now p).2 = .hit a) (hr : r = ((acGet s now p).1, .ok { path := p, attrs := a }))
  | neg (hp : p ≠ []) (hg : (Lru.get s.ac now p).2 = .neg) (hr : r = ((acGet s now p).1, .error .ENOENT))
  | absent {e} (hp : p ≠ []) (hg : (Lru.get s.ac now p).2 = .miss) (hl : Fs.lstat s.fs (fsPath p) = .error e)
      (hr : r = ((if e = .ENOENT then acPutNeg (acGet s now p).1 now p else (acGet s now p).1), .error e))
  | found {i} (hp : p ≠ []) (hg : (Lru.get s.ac now p).2 = .miss) (hl : Fs.lstat s.fs (fsPath p) = .ok i)
      (hr : r = (acPut (acGet s now p).1 now p (attrsOfInfo i (fnv64 p) 0 0),
        .ok { path := p, attrs := attrsOfInfo i (fnv64 p) 0 0 }))

theorem lookupPath_run (s : St) (now : Nat) (p : Bytes) : LookupPathRun s now p (lookupPath s now p) := by
  unfold lookupPath
  split
  · exact .empty ‹_› rfl
  simp only
  split
  · exact .hit ‹_› ‹_› rfl
  · exact .neg ‹_› ‹_› rfl
  split
  · exact .absent ‹_› ‹_› ‹_› rfl
  · exact .found ‹_› ‹_› ‹_› rfl

/-- the state after DirCache.Get, hit or miss (an expired entry for the path is gone) -/
def dcTouched (s : St) (now : Nat) (path : Bytes) : St := { s with dc := s.dc.map fun c => (Lru.get c now path).1 }

def dcStored (s0 : St) (now : Nat) (path : Bytes) (names : List Bytes) : St :=
  { s0 with dc := s0.dc.map fun c => if names.length > s0.cfg.dcMaxDirSize then c else Lru.put c now path names }

inductive ReadDirRun (s : St) (now : Nat) (dir : Node) (r : St × Except Fs.Errno (List Node)) : Prop
  | cached {c c1 names} (hdc : s.dc = some c) (hg : Lru.get c now dir.path = (c1, .hit names))
      (hr : r = ((lookupEach (dcTouched s now dir.path) now dir.path names).1,
        .ok (lookupEach (dcTouched s now dir.path) now dir.path names).2))
  | failed {e} (hrd : Fs.readdir s.fs (fsPath dir.path) = .error e) (hr : r = (dcTouched s now dir.path, .error e))
  | listed {ents} (hrd : Fs.readdir s.fs (fsPath dir.path) = .ok ents)
      (hr : r = ((lookupEach (dcStored (dcTouched s now dir.path) now dir.path (ents.map (·.1))) now dir.path
            (ents.map (·.1))).1,
        .ok (lookupEach (dcStored (dcTouched s now dir.path) now dir.path (ents.map (·.1))) now dir.path
            (ents.map (·.1))).2))

theorem readDir_run (s : St) (now : Nat) (dir : Node) : ReadDirRun s now dir (readDir s now dir) := by
  unfold readDir
  simp only
  split
  · rename_i s1 names heq
    split at heq
    · cases heq
    split at heq
    · cases heq
      exact .cached ‹_› ‹_› (by rw [dcTouched, ‹s.dc = some _›, Option.map_some, ‹Lru.get _ _ _ = _›])
    · cases heq
  split
  · exact .failed ‹_› rfl
  · exact .listed ‹_› rfl

inductive CreateOpRun (s : St) (now : Nat) (dir : Node) (name : Bytes) (perm : Nat) (r : St × Except Fs.Errno Node) : Prop
  | dotdot (hs : sanitize dir.path name = none) (hr : r = (s, .error .EIO))
  | createFailed {e} (hc : Fs.create s.fs (fsPath (joinName dir.path name)) = .error e) (hr : r = (s, .error e))
  | chmodFailed {fs1 e} (hc : Fs.create s.fs (fsPath (joinName dir.path name)) = .ok fs1)
      (hm : Fs.chmod fs1 (fsPath (joinName dir.path name)) (perm % 512) = .error e)
      (hr : r = ({ s with fs := match Fs.remove fs1 (fsPath (joinName dir.path name)) with | .ok f => f | .error _ => fs1 },
        .error e))
  | made {fs1 fs2} (hc : Fs.create s.fs (fsPath (joinName dir.path name)) = .ok fs1)
      (hm : Fs.chmod fs1 (fsPath (joinName dir.path name)) (perm % 512) = .ok fs2)
      (hr : r = lookupPath (invalidateForNew { s with fs := fs2 } dir.path (joinName dir.path name)) now
        (joinName dir.path name))

theorem createOp_run (s : St) (now : Nat) (dir : Node) (name : Bytes) (perm : Nat) :
    CreateOpRun s now dir name perm (createOp s now dir name perm) := by
  unfold createOp
  split
  · exact .dotdot ‹_› rfl
  cases sanitize_some ‹_›
  split
  · exact .createFailed ‹_› rfl
  split
  · exact .chmodFailed ‹_› ‹_› rfl
  · exact .made ‹_› ‹_› rfl

/-- `CreateOpRun` for a name Lstat does not find, on a well-formed backend (`createOp_fresh`): Create makes a regular
    file, whose Chmod cannot fail: no `chmodFailed` path with its Remove -/
inductive CreateOpFresh (s : St) (now : Nat) (dir : Node) (name : Bytes) (perm : Nat) (r : St × Except Fs.Errno Node) : Prop
  | failed {e} (hr : r = (s, .error e))
  | made {fs1 fs2 e} (hc : Fs.create s.fs (fsPath (joinName dir.path name)) = .ok fs1)
      (hm : Fs.chmod fs1 (fsPath (joinName dir.path name)) (perm % 512) = .ok fs2)
      (hu : Fs.Upd s.fs (fsPath (joinName dir.path name)) (fun _ => some e) fs2) (hk : e.kind = .file)
      (hr : r = lookupPath (invalidateForNew { s with fs := fs2 } dir.path (joinName dir.path name)) now
        (joinName dir.path name))

theorem createOp_fresh (s : St) (now : Nat) (dir : Node) (name : Bytes) (perm : Nat) (hw : Fs.WF s.fs) {err : Fs.Errno}
    (hmiss : Fs.lstat s.fs (fsPath (joinName dir.path name)) = .error err) :
    CreateOpFresh s now dir name perm (createOp s now dir name perm) := by
  cases createOp_run s now dir name perm with
  | dotdot _ hr | createFailed _ hr => exact .failed hr
  | chmodFailed hc hm _ =>
    obtain ⟨_, _, hok, -⟩ := Fs.create_chmod_new hw (Fs.lstat_err_walk hmiss) hc (perm % 512)
    cases hok.symm.trans hm
  | made hc hm hr =>
    obtain ⟨_, _, hok, hu, hk⟩ := Fs.create_chmod_new hw (Fs.lstat_err_walk hmiss) hc (perm % 512)
    cases hok.symm.trans hm
    exact .made hc hm hu hk hr

inductive SymlinkOpRun (s : St) (now : Nat) (dir : Node) (name target : Bytes) (r : St × Except Fs.Errno Node) : Prop
  | dotdot (hs : sanitize dir.path name = none) (hr : r = (s, .error .EIO))
  | failed {e} (hl : Fs.symlink s.fs target (fsPath (joinName dir.path name)) = .error e) (hr : r = (s, .error e))
  | made {fs1} (hl : Fs.symlink s.fs target (fsPath (joinName dir.path name)) = .ok fs1)
      (hr : r = lookupPath (invalidateForNew { s with fs := fs1 } dir.path (joinName dir.path name)) now
        (joinName dir.path name))

theorem symlinkOp_run (s : St) (now : Nat) (dir : Node) (name target : Bytes) :
    SymlinkOpRun s now dir name target (symlinkOp s now dir name target) := by
  unfold symlinkOp
  split
  · exact .dotdot ‹_› rfl
  cases sanitize_some ‹_›
  split
  · exact .failed ‹_› rfl
  · exact .made ‹_› rfl

/-- what Symlink, and Create of a name Lstat does not find, do on a well-formed backend: nothing; or an object is new at
    `dir/name`, the cache entries a new name touches are dropped, and the object is looked up -/
inductive MakeRun (s : St) (now : Nat) (dir : Node) (name : Bytes) (r : St × Except Fs.Errno Node) : Prop
  | failed {e} (hr : r = (s, .error e))
  | made {fs1 en} (hu : Fs.Upd s.fs (fsPath (joinName dir.path name)) (fun _ => some en) fs1)
      (hr : r = lookupPath (invalidateForNew { s with fs := fs1 } dir.path (joinName dir.path name)) now
        (joinName dir.path name))

theorem CreateOpFresh.make {s : St} {now : Nat} {dir : Node} {name : Bytes} {perm : Nat} {r : St × Except Fs.Errno Node}
    (h : CreateOpFresh s now dir name perm r) : MakeRun s now dir name r := by
  cases h with
  | failed hr => exact .failed hr
  | made _ _ hu _ hr => exact .made hu hr

theorem symlinkOp_make (s : St) (now : Nat) (dir : Node) (name target : Bytes) :
    MakeRun s now dir name (symlinkOp s now dir name target) := by
  cases symlinkOp_run s now dir name target with
  | dotdot _ hr | failed _ hr => exact .failed hr
  | made hl hr => exact .made (Fs.symlink_upd hl) hr

theorem removeOp_ok {s1 s2 : St} {n : Node} {name : Bytes} (h : removeOp s1 n name = .ok s2) :
    ∃ fs1, Fs.remove s1.fs (fsPath (joinName n.path name)) = .ok fs1 ∧
      s2 = dcInv (acInv (acInv { s1 with fs := fs1 } (joinName n.path name)) n.path) n.path := by
  unfold removeOp at h
  split at h
  · cases h
  cases sanitize_some ‹_›
  split at h
  · cases h
  · exact ⟨_, ‹_›, (Except.ok.inj h).symm⟩

def renamed (s2 : St) (fs1 : Fs.T) (d1 d2 p1 p2 : Bytes) : St :=
  dcInvPrefix (dcInvPrefix (dcInv (dcInv
    (acInvNegIn (acInvNegIn (acInv (acInv (acInvPrefix (acInvPrefix { s2 with fs := fs1 } p1) p2) d1) d2) d1) d2)
    d1) d2) p1) p2

theorem renameOp_ok {s2 s3 : St} {d1 d2 : Node} {n1 n2 : Bytes} (h : renameOp s2 d1 n1 d2 n2 = .ok s3) :
    ∃ fs1, Fs.rename s2.fs (fsPath (joinName d1.path n1)) (fsPath (joinName d2.path n2)) = .ok fs1 ∧
      s3 = renamed s2 fs1 d1.path d2.path (joinName d1.path n1) (joinName d2.path n2) := by
  unfold renameOp at h
  split at h
  · cases sanitize_some ‹sanitize d1.path n1 = _›
    cases sanitize_some ‹sanitize d2.path n2 = _›
    split at h
    · cases h
    · exact ⟨_, ‹_›, (Except.ok.inj h).symm⟩
  · cases h

def refreshSize (s2 : St) (h : Nat) (p : Bytes) : St :=
  match Fs.stat s2.fs (fsPath p) with
  | .error _ => s2
  | .ok i => updNodeAt s2 h fun a => { a with size := i.size }

theorem writeOp_ok {s1 s2 : St} {h : Nat} {n : Node} {off k : Nat} {data : Bytes} (heq : writeOp s1 h n off data = .ok (s2, k)) :
    off ≤ maxInt64 ∧ ∃ fs1, Fs.writeAt s1.fs (fsPath n.path) off data = .ok (fs1, k) ∧
      s2 = refreshSize (acInv { s1 with fs := fs1 } n.path) h n.path := by
  unfold writeOp at heq
  split at heq
  · cases heq
  split at heq
  · cases heq
  refine ⟨by omega, ?_⟩
  unfold refreshSize
  simp only at heq
  split at heq <;> (cases heq; exact ⟨_, ‹_›, by simp only [*]⟩)

theorem setattrSize_ok {s1 s2 : St} {h : Nat} {n : Node} {pre : Attrs} {size : Option Nat}
    (heq : setattrSize s1 h n pre size = .ok s2) :
    (size = none ∧ s2 = s1) ∨ ∃ sz fs1, size = some sz ∧ sz ≤ maxInt64 ∧ exceedsMax s1.cfg sz = false ∧ pre.kind ≠ .link ∧
      Fs.truncate s1.fs (fsPath n.path) sz = .ok fs1 ∧ s2 = refreshSize (acInv { s1 with fs := fs1 } n.path) h n.path := by
  unfold setattrSize at heq
  split at heq
  · exact .inl ⟨rfl, (Except.ok.inj heq).symm⟩
  split at heq
  · cases heq
  split at heq
  · cases heq
  split at heq
  · cases heq
  split at heq
  · cases heq
  refine .inr ⟨_, _, rfl, by omega, Bool.eq_false_iff.mpr ‹_›, ‹_›, ‹_›, ?_⟩
  unfold refreshSize
  simp only at heq
  split at heq <;> (cases heq; simp only [*])

def chmodStep (fs : Fs.T) (i : Fs.Info) (n : Node) (a : Attrs) : Except Fs.Errno Fs.T :=
  if ¬ i.kind = .link ∧ a.perm % 512 ≠ n.attrs.perm % 512 then Fs.chmod fs (fsPath n.path) (a.perm % 512) else .ok fs

def chownStep (fs1 : Fs.T) (i : Fs.Info) (n : Node) (a : Attrs) : Except Fs.Errno Fs.T :=
  if a.uid ≠ n.attrs.uid ∨ a.gid ≠ n.attrs.gid then
    (if i.kind = .link then Fs.lchown fs1 (fsPath n.path) a.uid a.gid else Fs.chown fs1 (fsPath n.path) a.uid a.gid)
  else .ok fs1

def chtimesStep (fs2 : Fs.T) (i : Fs.Info) (n : Node) (timesSet : Bool) : Except Fs.Errno Unit :=
  if ¬ i.kind = .link ∧ timesSet then Fs.chtimes fs2 (fsPath n.path) else .ok ()

inductive SetAttrOpRun (s : St) (h : Nat) (n : Node) (a : Attrs) (timesSet : Bool) (r : St × Option Nat) : Prop
  | lstatFailed {e} (hl : Fs.lstat s.fs (fsPath n.path) = .error e) (hr : r = (s, some (mapErrno e)))
  | chmodFailed {i e} (hl : Fs.lstat s.fs (fsPath n.path) = .ok i) (hm : chmodStep s.fs i n a = .error e)
      (hr : r = (s, some (mapErrno e)))
  | chownFailed {i fs1 e} (hl : Fs.lstat s.fs (fsPath n.path) = .ok i) (hm : chmodStep s.fs i n a = .ok fs1)
      (ho : chownStep fs1 i n a = .error e) (hr : r = ({ s with fs := fs1 }, some (mapErrno e)))
  | chtimesFailed {i fs1 fs2 e} (hl : Fs.lstat s.fs (fsPath n.path) = .ok i) (hm : chmodStep s.fs i n a = .ok fs1)
      (ho : chownStep fs1 i n a = .ok fs2) (ht : chtimesStep fs2 i n timesSet = .error e)
      (hr : r = ({ s with fs := fs2 }, some (mapErrno e)))
  | ok {i fs1 fs2} (hl : Fs.lstat s.fs (fsPath n.path) = .ok i) (hm : chmodStep s.fs i n a = .ok fs1)
      (ho : chownStep fs1 i n a = .ok fs2) (ht : chtimesStep fs2 i n timesSet = .ok ())
      (hr : r = (acInv (updNodeAt { s with fs := fs2 } h fun _ => a) n.path, none))

theorem setAttrOp_run (s : St) (h : Nat) (n : Node) (a : Attrs) (timesSet : Bool) :
    SetAttrOpRun s h n a timesSet (setAttrOp s h n a timesSet) := by
  unfold setAttrOp
  split
  · exact .lstatFailed ‹_› rfl
  simp only
  split
  · exact .chmodFailed ‹_› ‹_› rfl
  split
  · exact .chownFailed ‹_› ‹_› ‹_› rfl
  split
  · exact .chtimesFailed ‹_› ‹_› ‹_› ‹_› rfl
  · exact .ok ‹_› ‹_› ‹_› ‹_› rfl

/-- one of SetAttr's backend steps on an entry that exists: it succeeded, made no entry and rewrote at most that one,
    which is still there and of the same kind (so the next step finds it) -/
def StepOk (fs : Fs.T) (p : Fs.Path) (e : Fs.Entry) (r : Except Fs.Errno Fs.T) : Prop :=
  ∃ fs1 g e1, r = .ok fs1 ∧ Fs.Upd fs p g fs1 ∧ g none = none ∧ Fs.walk fs1 p = .ok e1 ∧ e1.kind = e.kind

theorem StepOk.skip {fs : Fs.T} {p : Fs.Path} {e : Fs.Entry} (hwe : Fs.walk fs p = .ok e) : StepOk fs p e (.ok fs) :=
  ⟨fs, id, e, rfl, .refl fs p, rfl, hwe, rfl⟩

theorem StepOk.of_map {fs fs1 : Fs.T} {p : Fs.Path} {e : Fs.Entry} {r : Except Fs.Errno Fs.T} {h : Fs.Entry → Fs.Entry}
    (hw : Fs.WF fs) (hwe : Fs.walk fs p = .ok e) (hr : r = .ok fs1) (u : Fs.Upd fs p (Option.map h) fs1)
    (hk : (h e).kind = e.kind := by rfl) : StepOk fs p e r :=
  ⟨fs1, _, _, hr, u, rfl, u.walk_map hw hwe, hk⟩

theorem chmodStep_ok {fs : Fs.T} {i : Fs.Info} {n : Node} {e : Fs.Entry} (hw : Fs.WF fs)
    (hwe : Fs.walk fs (fsPath n.path) = .ok e) (hie : e.kind = i.kind) (a : Attrs) :
    StepOk fs (fsPath n.path) e (chmodStep fs i n a) := by
  unfold chmodStep
  split
  · have hnl : e.kind ≠ .link := hie ▸ ‹_ ∧ _›.1
    obtain ⟨fs1, hok⟩ := Fs.chmod_ok_of_nonlink hwe hnl (a.perm % 512)
    exact .of_map hw hwe hok ((Fs.chmod_upd hok).at_nonlink hwe hnl)
  · exact .skip hwe

theorem chownStep_ok {fs : Fs.T} {i : Fs.Info} {n : Node} {e : Fs.Entry} (hw : Fs.WF fs)
    (hwe : Fs.walk fs (fsPath n.path) = .ok e) (hie : e.kind = i.kind) (a : Attrs) :
    StepOk fs (fsPath n.path) e (chownStep fs i n a) := by
  unfold chownStep
  split
  · split
    · obtain ⟨fs1, hok⟩ := Fs.lchown_ok_of_walk hwe a.uid a.gid
      exact .of_map hw hwe hok (Fs.lchown_upd hok)
    · have hnl : e.kind ≠ .link := hie ▸ ‹_›
      obtain ⟨fs1, hok⟩ := Fs.chown_ok_of_nonlink hwe hnl a.uid a.gid
      exact .of_map hw hwe hok ((Fs.chown_upd hok).at_nonlink hwe hnl)
  · exact .skip hwe

theorem chtimesStep_ok {fs : Fs.T} {i : Fs.Info} {n : Node} {e : Fs.Entry} (hwe : Fs.walk fs (fsPath n.path) = .ok e)
    (hie : e.kind = i.kind) (ts : Bool) : chtimesStep fs i n ts = .ok () := by
  unfold chtimesStep
  split
  · exact Fs.chtimes_ok_of_nonlink hwe (hie ▸ ‹_ ∧ _›.1)
  · rfl

theorem setAttr_steps {fs : Fs.T} {i : Fs.Info} {n : Node} (hw : Fs.WF fs) (hl : Fs.lstat fs (fsPath n.path) = .ok i) (a : Attrs)
    (ts : Bool) : ∃ fs1 fs2 g, chmodStep fs i n a = .ok fs1 ∧ chownStep fs1 i n a = .ok fs2 ∧ chtimesStep fs2 i n ts = .ok () ∧
      Fs.Upd fs (fsPath n.path) g fs2 ∧ g none = none := by
  obtain ⟨e, hwe, hie⟩ := Fs.lstat_ok_walk hl
  have hie : e.kind = i.kind := congrArg Fs.Info.kind hie
  obtain ⟨fs1, g1, e1, hm, u1, hg1, hwe1, hk1⟩ := chmodStep_ok hw hwe hie a
  obtain ⟨fs2, g2, e2, ho, u2, hg2, hwe2, hk2⟩ := chownStep_ok (u1.wf hw) hwe1 (hk1.trans hie) a
  exact ⟨fs1, fs2, _, hm, ho, chtimesStep_ok hwe2 (hk2.trans (hk1.trans hie)) ts, u1.trans u2, (congrArg g2 hg1).trans hg2⟩

/-- on a well-formed backend SetAttr fails only where its Lstat does: a link is only Lchown'ed, and Lchown of what
    exists, like Chmod, Chown and Chtimes of what exists and is no link, succeeds. (`SetAttrOpRun` has the three early
    returns; two of them would leave a changed backend without the invalidation.) -/
inductive SetAttrOpWf (s : St) (h : Nat) (n : Node) (a : Attrs) (r : St × Option Nat) : Prop
  | lstatFailed {e} (hl : Fs.lstat s.fs (fsPath n.path) = .error e) (hr : r = (s, some (mapErrno e)))
  | ok {fs2 g} (hu : Fs.Upd s.fs (fsPath n.path) g fs2) (hg : g none = none)
      (hr : r = (updNodeAt (acInv { s with fs := fs2 } n.path) h fun _ => a, none))

theorem setAttrOp_wf (s : St) (h : Nat) (n : Node) (a : Attrs) (ts : Bool) (hw : Fs.WF s.fs) :
    SetAttrOpWf s h n a (setAttrOp s h n a ts) := by
  cases hl : Fs.lstat s.fs (fsPath n.path) with
  | error e => exact .lstatFailed hl (by unfold setAttrOp; rw [hl])
  | ok i =>
    obtain ⟨fs1, fs2, g, hm, ho, ht, hu, hg⟩ := setAttr_steps hw hl a ts
    unfold chmodStep at hm
    unfold chownStep at ho
    unfold chtimesStep at ht
    exact .ok hu hg (by unfold setAttrOp; simp only [hl, hm, ho, ht]; rfl)

end Server
end Absnfs
