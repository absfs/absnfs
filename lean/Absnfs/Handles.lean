/-
  Handles: the file-handle table (filehandle.go: Allocate / Get / Release / ReleaseAll; minheap.go).
  `live` is handles (id ↦ path; pathHandles is its inverse), `free` is the min-heap of reusable ids,
  `next` is nextHandle. The heap is modelled as a list from which the minimum is taken (container/heap is
  Go's stdlib). Eviction removes the `evictCount` smallest ids other than the id just assigned.
-/
import Absnfs.Bytes
namespace Absnfs
namespace Handles

structure St where
  live : List (Nat × Bytes)
  free : List Nat
  next : Nat
  maxRaw : Int            -- maxHandles as configured (≤ 0 means the default)
  deriving Repr

/-- maxH := fm.maxHandles; if maxH <= 0 { maxH = DefaultMaxHandles } -/
def effMax (defaultMax : Nat) (raw : Int) : Nat := if raw ≤ 0 then defaultMax else raw.toNat

def init (maxRaw : Int) : St := { live := [], free := [], next := 1, maxRaw := maxRaw }

def get (s : St) (h : Nat) : Option Bytes := (s.live.find? (·.1 == h)).map (·.2)

def handleOf (s : St) (p : Bytes) : Option Nat := (s.live.find? (·.2 == p)).map (·.1)

/-- smallest element of a non-empty list -/
def listMin : List Nat → Option Nat
  | [] => none
  | x :: xs => match listMin xs with
    | none => some x
    | some m => some (if x ≤ m then x else m)

/-- Evict up to `k` entries, smallest id first, never the id `keep`. Returns the remaining table and the
    evicted ids in eviction order. (`delete(fm.handles, h)` removes the one entry with that key.) -/
def evictN : Nat → Nat → List (Nat × Bytes) → List (Nat × Bytes) × List Nat
  | 0, _, live => (live, [])
  | k + 1, keep, live =>
    match listMin ((live.map (·.1)).filter (· ≠ keep)) with
    | none => (live, [])
    | some m =>
      let r := evictN k keep (live.eraseP (·.1 == m))
      (r.1, m :: r.2)

def evictCount (maxH divisor : Nat) : Nat := if maxH / divisor < 1 then 1 else maxH / divisor

/-- The id for a new entry: the smallest freed id if any, else nextHandle (then incremented).
    Returns (id, new free list, new nextHandle). -/
def pick (s : St) : Nat × List Nat × Nat :=
  match listMin s.free with
  | some m => (m, s.free.erase m, s.next)
  | none => (s.next, s.free, s.next + 1)

/-- Allocate. `defaultMax` = DefaultMaxHandles, `divisor` = 10 (both regenerated from the source).
    The empty path is never deduplicated (`node.path != ""` in filehandle.go): that is where `Inv.noEmpty` and
    every `p ≠ []` come from. -/
def alloc (defaultMax divisor : Nat) (s : St) (p : Bytes) : St × Nat :=
  match (if p = [] then none else handleOf s p) with
  | some h => (s, h)
  | none =>
    let pk := pick s
    let h := pk.1
    let live1 := (h, p) :: s.live
    let maxH := effMax defaultMax s.maxRaw
    if live1.length > maxH then
      let r := evictN (evictCount maxH divisor) h live1
      ({ s with live := r.1, free := pk.2.1 ++ r.2, next := pk.2.2 }, h)
    else ({ s with live := live1, free := pk.2.1, next := pk.2.2 }, h)

def release (s : St) (h : Nat) : St :=
  if (s.live.any (·.1 == h)) then { s with live := s.live.eraseP (·.1 == h), free := s.free ++ [h] } else s

def releaseAll (s : St) : St := { s with live := [], free := [] }

inductive Op where
  | alloc (p : Bytes)
  | release (h : Nat)
  | releaseAll
  deriving Repr

def step (defaultMax divisor : Nat) (s : St) : Op → St
  | .alloc p => (alloc defaultMax divisor s p).1
  | .release h => release s h
  | .releaseAll => releaseAll s

def run (defaultMax divisor : Nat) (s : St) (ops : List Op) : St := ops.foldl (step defaultMax divisor) s

theorem listMin_mem : ∀ {l : List Nat} {m : Nat}, listMin l = some m → m ∈ l
  | x :: xs, m, h => by
    unfold listMin at h
    split at h
    · cases h; exact List.mem_cons_self ..
    · rename_i m' hx
      cases h
      split
      · exact List.mem_cons_self ..
      · exact List.mem_cons_of_mem _ (listMin_mem hx)

theorem listMin_none : ∀ {l : List Nat}, listMin l = none → l = []
  | [], _ => rfl
  | x :: xs, h => by unfold listMin at h; split at h <;> cases h

def ids (l : List (Nat × Bytes)) : List Nat := l.map (·.1)
def paths (l : List (Nat × Bytes)) : List Bytes := l.map (·.2)

theorem ids_eraseP (l : List (Nat × Bytes)) (m : Nat) :
    ids (l.eraseP (·.1 == m)) = (ids l).erase m := by
  rw [ids, ids, List.erase_eq_eraseP', List.eraseP_map]; rfl

theorem any_id_iff {l : List (Nat × Bytes)} {h : Nat} : l.any (·.1 == h) = true ↔ h ∈ ids l := by
  simp only [List.any_eq_true, ids, List.mem_map, beq_iff_eq]

theorem evictN_pick {keep m : Nat} {live : List (Nat × Bytes)}
    (hm : listMin ((live.map (·.1)).filter (· ≠ keep)) = some m) : m ∈ ids live ∧ m ≠ keep := by
  have := List.mem_filter.mp (listMin_mem hm)
  exact ⟨this.1, by simpa using this.2⟩

theorem evictN_sublist (k keep : Nat) (live : List (Nat × Bytes)) :
    (evictN k keep live).1.Sublist live := by
  fun_induction evictN k keep live with
  | case1 => exact .refl _
  | case2 => exact .refl _
  | case3 _ _ _ _ _ _ ih => exact ih.trans List.eraseP_sublist

theorem evictN_head (k h : Nat) (p : Bytes) (rest : List (Nat × Bytes)) :
    ∃ rest', (evictN k h ((h, p) :: rest)).1 = (h, p) :: rest' := by
  induction k generalizing rest with
  | zero => exact ⟨rest, rfl⟩
  | succ k ih =>
    unfold evictN
    split
    · exact ⟨rest, rfl⟩
    · rename_i m hm
      have hne : ((h, p).1 == m) = false := by simpa using (evictN_pick hm).2.symm
      rw [List.eraseP_cons, hne, cond_false]
      exact ih _

theorem evictN_length_lt {k : Nat} (hk : 0 < k) (keep : Nat) (live : List (Nat × Bytes))
    (hc : ∃ x ∈ live, x.1 ≠ keep) : (evictN k keep live).1.length < live.length := by
  obtain ⟨k, rfl⟩ := Nat.exists_eq_add_one_of_ne_zero (Nat.ne_of_gt hk)
  unfold evictN
  split
  · next hnone =>
    obtain ⟨x, hx, hne⟩ := hc
    have hin : x.1 ∈ (live.map (·.1)).filter (· ≠ keep) :=
      List.mem_filter.mpr ⟨List.mem_map_of_mem hx, decide_eq_true hne⟩
    rw [listMin_none hnone] at hin
    exact nomatch hin
  · next m hm =>
    obtain ⟨y, hy, hym⟩ := List.mem_map.mp (evictN_pick hm).1
    calc _ ≤ (live.eraseP (·.1 == m)).length := (evictN_sublist ..).length_le
      _ = live.length - 1 := List.length_eraseP_of_mem hy (beq_iff_eq.mpr hym)
      _ < live.length := Nat.sub_one_lt (Nat.ne_of_gt (List.length_pos_of_mem hy))

end Handles
end Absnfs
