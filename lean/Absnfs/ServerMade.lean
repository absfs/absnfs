/-
  ServerMade: what a CREATE, MKDIR or SYMLINK request did, in a state satisfying the invariant (`Creation`): it was
  answered with an error and the backend is as it was, or with NFS3_OK, and then the handle in the reply resolves to
  directory-path/name with the attributes the reply carries (C05, C04) and, if a name was added, the directory's cached
  listing is gone (C02).
  From the backend call on nothing can fail: what Lstat shows at the directory is unchanged, so the GetAttr that
  builds the reply succeeds, and a coherent cache answers the Lookup of the new object as the backend would (`Made`).
-/
import Absnfs.ServerFailed
import Absnfs.ServerHandles
namespace Absnfs
namespace Server

def DcColdD (d : Option (Lru.Cache (List Bytes))) (p : Bytes) : Prop := ∀ c, d = some c → p ∉ Lru.keys c
def DcCold (s : St) (p : Bytes) : Prop := DcColdD s.dc p

/-- `DcI` (unique keys) is what makes this true: `Lru.invalidate` takes one entry out -/
theorem coldD_invalidate_self {d : Option (Lru.Cache (List Bytes))} (h : DcI d) (p : Bytes) :
    DcColdD (d.map fun c => Lru.invalidate c p) p := by
  intro c hc
  obtain ⟨c0, hc0, rfl⟩ := Option.map_eq_some_iff.mp hc
  simp only [Lru.invalidate, Lru.keys, Lru.keys_removeKey]
  exact fun hmem => ((List.Nodup.mem_erase_iff (h c0 hc0).nodup).mp hmem).1 rfl

theorem DcCold.of_eq {s' : St} {d : Option (Lru.Cache (List Bytes))} {p : Bytes} (h : DcColdD d p) (hdc : s'.dc = d) :
    DcCold s' p := by
  unfold DcCold; rw [hdc]; exact h

variable {s s' s1 t t' : St} {c : Ctx} {now st st' how mode : Nat} {n dir node : Node} {d p name verf args : Bytes}
  {pre : Attrs} {body b : Rfc.Body} {fs1 : Fs.T} {r : Except Fs.Errno Node} {sa : Sattr3} {info : Fs.Info}
  {fresh : Node → Bytes → Prop}

/-- the state from the backend call of CREATE, MKDIR or SYMLINK on (directory `d`, new object `p`) -/
structure Made (t : St) (d p : Bytes) : Prop where
  cinv : CInv t
  dir : ∃ i, Fs.lstat t.fs (fsPath d) = .ok i
  obj : ∃ i, Fs.lstat t.fs (fsPath p) = .ok i
  cold : DcCold t d

theorem Made.of_upd {en : Fs.Entry} (h : CInv s) (hd : CleanPath d) (hn : NoSep name)
    (hi : ∃ i, Fs.lstat s.fs (fsPath d) = .ok i) (hu : Fs.Upd s.fs (fsPath (joinName d name)) (fun _ => some en) fs1) :
    Made (invalidateForNew { s with fs := fs1 } d (joinName d name)) d (joinName d name) :=
  ⟨cinv_made h (.child d name hd hn) hu d, lstat_dir_kept hn h.wf hu hi, ⟨_, Fs.lstat_of_walk (hu.walk h.wf rfl)⟩,
    coldD_invalidate_self h.dci d⟩

theorem Made.of_view (hm : Made t d p) (h' : CInv t') (hv : ∀ q, Fs.viewAt t'.fs q = Fs.viewAt t.fs q) (hdc : t'.dc = t.dc) :
    Made t' d p :=
  ⟨h', lstat_ok_transfer h'.wf hm.dir (hv _), lstat_ok_transfer h'.wf hm.obj (hv _), .of_eq hm.cold hdc⟩

theorem Made.unseen (hm : Made t d p) (u : Unseen t t') : Made t' d p := hm.of_view (u.cinv hm.cinv) u.view u.dc

/-- the Lookup of the new object: a coherent cache finds what the backend has -/
theorem Made.lookup (hm : Made t d p) (hp : CleanPath p) (hl : lookupPath t now p = (t', r)) :
    match r with
    | .error _ => False
    | .ok node => Made t' d p ∧ NodeAt t' p node := by
  cases r with
  | error e => exact hm.obj.elim fun _ hi => lookupPath_not_error hm.cinv.coh (cleanPath_ne_nil hp) hi hl
  | ok node =>
    have ha := NodeAt.of_lookup hl hm.cinv hp
    exact ⟨hm.of_view ha.cinv (fun _ => congrArg (Fs.viewAt · _) (lookupPath_acOnly hl).fs) (lookupPath_acOnly hl).dc, ha⟩

theorem MakeRun.outcome (hr : MakeRun s now dir name (s', r)) (h : CInv s) (hd : CleanPath dir.path) (hn : NoSep name)
    (hi : ∃ i, Fs.lstat s.fs (fsPath dir.path) = .ok i) :
    match r with
    | .error _ => s' = s
    | .ok node => Made s' dir.path (joinName dir.path name) ∧ NodeAt s' (joinName dir.path name) node := by
  cases hr with
  | failed hr => cases hr; rfl
  | made hu hr =>
    have hl := (Made.of_upd h hd hn hi hu).lookup (.child _ _ hd hn) hr.symm
    cases r with
    | error => exact hl.elim
    | ok => exact hl

/-- the tail of the three procedures from a `Made` state: the reply is NFS3_OK -/
theorem MadeThen.finish {o : Outcome} (ht : MadeThen t c n pre node (s', o)) (hm : Made t n.path p) (ha : NodeAt t p node)
    (hnc : CleanPath n.path) : ∃ fh w, o = CreatedOk fh (toFattr node.attrs) w ∧ Resolves s' fh p (toFattr node.attrs) ∧
      DcCold s' n.path := by
  cases ht with
  | postFailed hg _ => exact (getAttr_not_error hm.dir hg).elim
  | ok hg hr =>
    cases hr
    exact ⟨_, _, rfl, (ha.acOnly (getAttr_acOnly hg) (getAttr_cinv hg ha.cinv hnc)).allocate,
      .of_eq hm.cold (getAttr_acOnly hg).dc⟩

/-- what a CREATE, MKDIR or SYMLINK request answered with `⟨st, body⟩` did; `fresh n name` says when a name was added to
    the directory (CREATE over a taken name adds none, and the listing may stay) -/
inductive Creation (s s' : St) (args : Bytes) (st : Nat) (body : Rfc.Body) (fresh : Node → Bytes → Prop) : Prop
  | failed (hst : st ≠ 0) (hfs : s'.fs = s.fs)
  | made {hd r1 name r2 n fh fa w} (hfh : decFh' s args = some (hd, r1)) (hname : decStr s r1 = some (name, r2))
      (hn : nodeOf s hd = some n) (hr : Outcome.res ⟨st, body⟩ = CreatedOk fh fa w)
      (hres : Resolves s' fh (joinName n.path name) fa) (hcold : fresh n name → DcCold s' n.path)

theorem Creation.of_failed (hr : (s', Outcome.res ⟨st, body⟩) = (t, res st' b)) (h0 : st' ≠ 0) (hfs : t.fs = s.fs) :
    Creation s s' args st body fresh := by
  obtain ⟨rfl, rfl, _⟩ := res_inj hr
  exact .failed h0 hfs

/-- C02: "a failed request leaves the tree unchanged" -/
theorem Creation.failed_fs (h : Creation s s' args st body fresh) (hst : st ≠ 0) : s'.fs = s.fs := by
  cases h with
  | failed _ hfs => exact hfs
  | made _ _ _ hr => cases hr; exact absurd rfl hst

/-- C05 / C04: the handle of an NFS3_OK reply resolves to dir-path/name, with the attributes the reply carried, which
    are the backend's; C02: and the directory's listing is gone from the cache -/
theorem Creation.ok {fh : Nat} {fa : Rfc.Fattr} {w : Rfc.Wcc} (h : Creation s s' args 0 (.createOk (some fh) (some fa) w) fresh) :
    ∃ hd r1 name r2 n, decFh' s args = some (hd, r1) ∧ decStr s r1 = some (name, r2) ∧ nodeOf s hd = some n ∧
      Resolves s' fh (joinName n.path name) fa ∧ (fresh n name → DcCold s' n.path) := by
  cases h with
  | failed hst => exact absurd rfl hst
  | made hfh hname hn hr hres hcold => cases hr; exact ⟨_, _, _, _, _, hfh, hname, hn, hres, hcold⟩

theorem Creation.handle {fh : Nat} {fa : Rfc.Fattr} {w : Rfc.Wcc} (h : Creation s s' args 0 (.createOk (some fh) (some fa) w) fresh) :
    ∃ hd r1 name r2 n a, decFh' s args = some (hd, r1) ∧ decStr s r1 = some (name, r2) ∧ nodeOf s hd = some n ∧
      nodeOf s' fh = some { path := joinName n.path name, attrs := a } ∧ fa = toFattr a ∧
      MatchesLstat s'.fs (joinName n.path name) a :=
  let ⟨hd, r1, name, r2, n, hfh, hname, hn, ⟨a, ha⟩, _⟩ := h.ok
  ⟨hd, r1, name, r2, n, a, hfh, hname, hn, ha⟩

theorem Creation.dcCold {fh : Nat} {fa : Rfc.Fattr} {w : Rfc.Wcc}
    (h : Creation s s' args 0 (.createOk (some fh) (some fa) w) fun _ _ => True) :
    ∃ hd r1 n, decFh' s args = some (hd, r1) ∧ nodeOf s hd = some n ∧ DcCold s' n.path :=
  let ⟨hd, r1, _, _, n, hfh, _, hn, _, hc⟩ := h.ok
  ⟨hd, r1, n, hfh, hn, hc trivial⟩

theorem mkdirMade_made {m : Nat} (h : CInv s) (hnc : CleanPath n.path) (hns : NoSep name) (hg : getAttr s c.now n = (s1, .ok pre))
    (hop : Fs.mkdir s1.fs (fsPath (joinName n.path name)) m = .ok fs1) (sa : Sattr3) :
    Made (mkdirMade s1 fs1 c n name sa) n.path (joinName n.path name) := by
  have h1 := getAttr_cinv hg h hnc
  exact (Made.of_upd h1 hnc hns (getAttr_ok_lstat hg) (Fs.mkdir_upd hop)).unseen (chownQuiet_unseen ..)

theorem procMkdir_creation (hI : CInv s) (h : procMkdir s c args = (s', .res ⟨st, body⟩)) :
    Creation s s' args st body fun _ _ => True := by
  cases h ▸ procMkdir_run s c args with
  | refused hr => obtain ⟨_, h0, _, hr⟩ := hr; exact .of_failed hr h0 rfl
  | run _ hfh hname hv _ _ hn hrun =>
    have hnc := hI.node hn
    have hns := noSep_of_valid _ hv
    cases hrun with
    | attrFailed hg hr => exact .of_failed hr (mapErrno_ne_zero _) (getAttr_acOnly hg).fs
    | opFailed hg _ hr => exact .of_failed hr (mapErrno_ne_zero _) ((getAttrOr_fs ..).trans (getAttr_acOnly hg).fs)
    | lookupFailed hg hop hl _ => exact ((mkdirMade_made hI hnc hns hg hop _).lookup (.child _ _ hnc hns) hl).elim
    | made hg hop hl ht =>
      obtain ⟨hm, ha⟩ := (mkdirMade_made hI hnc hns hg hop _).lookup (.child _ _ hnc hns) hl
      obtain ⟨_, _, hr, hres, hcold⟩ := ht.finish hm ha hnc
      exact .made hfh hname hn hr hres fun _ => hcold

theorem procSymlink_creation (hI : CInv s) (h : procSymlink s c args = (s', .res ⟨st, body⟩)) :
    Creation s s' args st body fun _ _ => True := by
  cases h ▸ procSymlink_run s c args with
  | refused hr => obtain ⟨_, h0, _, hr⟩ := hr; exact .of_failed hr h0 rfl
  | run _ hfh hname hv _ _ _ _ _ hn hrun =>
    have hnc := hI.node hn
    cases hrun with
    | attrFailed hg hr => exact .of_failed hr (mapErrno_ne_zero _) (getAttr_acOnly hg).fs
    | opFailed hg hop hr =>
      cases (hop ▸ symlinkOp_make ..).outcome (getAttr_cinv hg hI hnc) hnc (noSep_of_valid _ hv) (getAttr_ok_lstat hg)
      exact .of_failed hr (mapErrno_ne_zero _) ((getAttrOr_fs ..).trans (getAttr_acOnly hg).fs)
    | made hg hop ht =>
      obtain ⟨hm, ha⟩ :=
        (hop ▸ symlinkOp_make ..).outcome (getAttr_cinv hg hI hnc) hnc (noSep_of_valid _ hv) (getAttr_ok_lstat hg)
      obtain ⟨_, _, hr, hres, hcold⟩ := ht.finish (hm.unseen (lchownQuiet_unseen ..)) (ha.unseen (lchownQuiet_unseen ..)) hnc
      exact .made hfh hname hn hr hres fun _ => hcold

theorem createNew_creation {err : Fs.Errno} (h1 : CInv s1) (hnc : CleanPath n.path) (hns : NoSep name)
    (hmiss : Fs.lstat s1.fs (fsPath (joinName n.path name)) = .error err) (hi : ∃ i, Fs.lstat s1.fs (fsPath n.path) = .ok i)
    (heq : createNew s1 c n pre name mode how sa verf = (s', .res ⟨st, body⟩)) :
    (st ≠ 0 ∧ s'.fs = s1.fs) ∨ ∃ fh fa w, Outcome.res ⟨st, body⟩ = CreatedOk fh fa w ∧
      Resolves s' fh (joinName n.path name) fa ∧ DcCold s' n.path := by
  have hmake {s2 r} (hop : createOp s1 c.now n name mode = (s2, r)) :=
    (hop ▸ createOp_fresh s1 c.now n name mode h1.wf hmiss).make.outcome h1 hnc hns hi
  cases heq ▸ createNew_run s1 c n pre name mode how sa verf with
  | opFailed hop hr =>
    cases hmake hop
    obtain ⟨rfl, rfl, _⟩ := res_inj hr
    exact .inl ⟨mapErrno_ne_zero _, getAttrOr_fs ..⟩
  | @made s2 node hop ht =>
    obtain ⟨hm, ha⟩ := hmake hop
    have u := (remembered_unseen s2 (how = 2) node.path verf).trans (chownQuiet_unseen _ node.path (ownerUid c sa) (ownerGid c sa))
    obtain ⟨_, _, hr, hres, hcold⟩ := ht.finish (hm.unseen u) (ha.unseen u) hnc
    exact .inr ⟨_, _, _, hr, hres, hcold⟩

theorem createStep1_outcome (s1 : St) (p : Bytes) (info : Fs.Info) (how : Nat) (sa : Sattr3) (verf : Bytes) (hw : Fs.WF s1.fs)
    (hinfo : Fs.lstat s1.fs (fsPath p) = .ok info) :
    ((createStep1 s1 p info how sa verf).2 ≠ 0 → (createStep1 s1 p info how sa verf).1.fs = s1.fs) ∧
    ∃ i, Fs.lstat (createStep1 s1 p info how sa verf).1.fs (fsPath p) = .ok i := by
  cases createStep1_run s1 p info how sa verf with
  | exist _ hr => rw [hr]; exact ⟨fun _ => rfl, info, hinfo⟩
  | proceed _ hk _ hsize =>
    cases hsize with
    | kept _ hr | tooLarge _ _ _ hr | fbig _ _ _ hr | truncFailed _ _ _ hr => rw [hr]; exact ⟨fun _ => rfl, info, hinfo⟩
    | truncated _ _ _ _ htr hr =>
      rw [hr]
      obtain ⟨e, hwe, hie⟩ := Fs.lstat_ok_walk hinfo
      have hnl : e.kind ≠ .link := by rw [show e.kind = .file from (congrArg Fs.Info.kind hie).trans hk]; decide
      exact ⟨fun hne => absurd rfl hne, _, Fs.lstat_of_walk (((Fs.truncate_upd htr).at_nonlink hwe hnl).walk_map hw hwe)⟩

theorem createExisting_creation (h1 : CInv s1) (hnc : CleanPath n.path) (hpc : CleanPath p)
    (hinfo : Fs.lstat s1.fs (fsPath p) = .ok info)
    (heq : createExisting s1 c n pre p info how sa verf = (s', .res ⟨st, body⟩)) :
    (st ≠ 0 ∧ s'.fs = s1.fs) ∨ ∃ fh fa w, Outcome.res ⟨st, body⟩ = CreatedOk fh fa w ∧ Resolves s' fh p fa := by
  obtain ⟨hunch, i2, hi2⟩ := createStep1_outcome s1 p info how sa verf h1.wf hinfo
  have h2 := cinv_blocks.createStep1 how sa verf h1 hpc hinfo
  have hrun := createFinish_run (createStep1 s1 p info how sa verf).1 (createStep1 s1 p info how sa verf).2 c n pre p
  rw [show createFinish _ _ c n pre p = _ from heq] at hrun
  cases hrun with
  | failed hne hr =>
    obtain ⟨rfl, rfl, _⟩ := res_inj hr
    exact .inl ⟨hne, (getAttrOr_fs ..).trans (hunch hne)⟩
  | lookupFailed _ hl _ => exact (lookupPath_not_error h2.coh (cleanPath_ne_nil hpc) hi2 hl).elim
  | ok _ hl hr =>
    cases hr
    have hm := NodeAt.of_lookup hl h2 hpc
    exact .inr ⟨_, _, _, rfl, (hm.acOnly (getAttrOr_acOnly rfl) (getAttrOr_cinv' rfl hm.cinv hnc)).allocate⟩

/-- CREATE, every mode, over a free or a taken name -/
theorem procCreate_creation (hI : CInv s) (h : procCreate s c args = (s', .res ⟨st, body⟩)) :
    Creation s s' args st body fun n name => ∃ err, Fs.lstat s.fs (fsPath (joinName n.path name)) = .error err := by
  cases h ▸ procCreate_run s c args with
  | refused hr => obtain ⟨_, h0, _, hr⟩ := hr; exact .of_failed hr h0 rfl
  | run _ hfh hname hv _ _ _ hn hrun =>
    have hnc := hI.node hn
    cases hrun with
    | attrFailed hg hr => exact .of_failed hr (mapErrno_ne_zero _) (getAttr_acOnly hg).fs
    | existing hg hi hr =>
      have hfs := (getAttr_acOnly hg).fs
      obtain ⟨h0, hf⟩ | ⟨_, _, _, hr, hres⟩ :=
        createExisting_creation (getAttr_cinv hg hI hnc) hnc (joinName_clean _ _ hnc hv) hi hr.symm
      · exact .failed h0 (hf.trans hfs)
      · exact .made hfh hname hn hr hres fun ⟨_, herr⟩ => by rw [hfs, herr] at hi; cases hi
    | fresh hg hi hr =>
      obtain ⟨h0, hf⟩ | ⟨_, _, _, hr, hres, hcold⟩ :=
        createNew_creation (getAttr_cinv hg hI hnc) hnc (noSep_of_valid _ hv) hi (getAttr_ok_lstat hg) hr.symm
      · exact .failed h0 (hf.trans (getAttr_acOnly hg).fs)
      · exact .made hfh hname hn hr hres fun _ => hcold

end Server
end Absnfs
