/-
  PoolInv: the invariant of the worker-pool transition system.
-/
import Absnfs.Pool
namespace Absnfs
namespace Pool

theorem perm_set {α : Type} {l : List α} {i : Nat} {x : α} (h : l[i]? = some x) (y : α) :
    (x :: l.set i y).Perm (y :: l) := by
  induction l generalizing i with
  | nil => simp at h
  | cons z zs ih =>
    cases i with
    | zero =>
      simp only [List.getElem?_cons_zero, Option.some.injEq] at h
      subst h
      exact List.Perm.swap ..
    | succ j =>
      exact (List.Perm.swap ..).trans (((ih h).cons z).trans (List.Perm.swap ..))

theorem countP_set {α : Type} {l : List α} {i : Nat} {x : α} (h : l[i]? = some x) (y : α) (p : α → Bool) :
    (l.set i y).countP p + (p x).toNat = l.countP p + (p y).toNat := by
  have := (perm_set h y).countP_eq p
  rwa [List.countP_cons, List.countP_cons, ← Bool.cond_eq_ite, ← Bool.cond_eq_ite] at this

def tasksOf (ws : List Worker) : List Nat := ws.filterMap (·.task)

theorem busy_setWorker {s : St} {i : Nat} {w : Worker} (hi : s.workers[i]? = some w) (w' : Worker) :
    (w.task.toList ++ busy (setWorker s i w')).Perm (w'.task.toList ++ busy s) := by
  have := (perm_set hi w').filterMap (·.task)
  cases w with | mk t e => cases w' with | mk t' e' => cases t <;> cases t' <;> exact this

/-- `perm` with `nodup`: every accepted task is in exactly one of the queue, a worker, `executed`, `told`. The
    other fields order the phases of Stop and of the workers' exit. -/
structure Inv (n : Nat) (drains : Bool) (s : St) : Prop where
  perm : (s.queue ++ (busy s ++ (s.executed ++ s.told))).Perm s.accepted
  nodup : s.accepted.Nodup
  exitedIdle : ∀ w ∈ s.workers, w.exited = true → w.task = none
  exitedWhy : (∃ w ∈ s.workers, w.exited = true) → (s.ctxDone = true ∨ s.closed = true)
  doneNotRunning : s.ctxDone = true → s.running = false
  closedDone : s.closed = true → s.ctxDone = true
  stoppedAll : s.stopped = true → (s.closed = true ∧ (∀ w ∈ s.workers, w.exited = true) ∧ (drains = true → s.queue = []))
  size : s.workers.length = n

theorem inv_init (n : Nat) (drains : Bool) : Inv n drains (init n) := by
  constructor <;> simp [init, busy]

theorem Inv.stopped_not_running {n : Nat} {drains : Bool} {s : St} (hI : Inv n drains s)
    (hst : s.stopped = true) : s.running = false :=
  hI.doneNotRunning (hI.closedDone (hI.stoppedAll hst).1)

theorem Inv.worker_step {n : Nat} {drains : Bool} {s : St} {i : Nat} {w : Worker} (hI : Inv n drains s)
    (hi : s.workers[i]? = some w) (hw : w.exited = false) (w' : Worker) (q e : List Nat)
    (hx : w'.exited = true → w'.task = none ∧ (s.ctxDone = true ∨ s.closed = true))
    (hp : (q ++ (w'.task.toList ++ e)).Perm (s.queue ++ (w.task.toList ++ s.executed))) :
    Inv n drains (setWorker { s with queue := q, executed := e } i w') where
  perm := by
    show (q ++ (busy (setWorker s i w') ++ (e ++ s.told))).Perm s.accepted
    refine (List.perm_iff_count.mpr fun t => ?_).trans hI.perm
    have h1 := hp.count_eq t
    have h2 := (busy_setWorker hi w').count_eq t
    simp only [List.count_append] at h1 h2 ⊢
    omega
  nodup := hI.nodup
  exitedIdle x hm hex := by
    rcases List.mem_or_eq_of_mem_set hm with hm | rfl
    · exact hI.exitedIdle x hm hex
    · exact (hx hex).1
  exitedWhy := fun ⟨x, hm, hex⟩ => by
    rcases List.mem_or_eq_of_mem_set hm with hm | rfl
    · exact hI.exitedWhy ⟨x, hm, hex⟩
    · exact (hx hex).2
  doneNotRunning := hI.doneNotRunning
  closedDone := hI.closedDone
  stoppedAll hst := nomatch hw.symm.trans ((hI.stoppedAll hst).2.1 w (List.mem_of_getElem? hi))
  size := by simp [setWorker, hI.size]

theorem inv_step (n : Nat) (drains : Bool) (s s' : St) (hI : Inv n drains s) (hs : Step drains s s') :
    Inv n drains s' := by
  cases hs with
  | submit t hr hc hroom hnew =>
    refine { hI with perm := ?_, nodup := List.nodup_cons.mpr ⟨hnew, hI.nodup⟩,
                     stoppedAll := fun hst => nomatch hr.symm.trans (hI.stopped_not_running hst) }
    show ((s.queue ++ [t]) ++ _).Perm (t :: s.accepted)
    rw [List.append_assoc, List.singleton_append]
    exact List.perm_middle.trans (hI.perm.cons t)
  | take i t rest hi hq =>
    refine hI.worker_step hi rfl ⟨some t, false⟩ rest s.executed (fun h => nomatch h) ?_
    rw [hq]
    exact List.perm_middle
  | finish i t hi =>
    exact hI.worker_step hi rfl ⟨none, false⟩ s.queue (t :: s.executed) (fun h => nomatch h) (.refl _)
  | exitCtx i hi hd =>
    exact hI.worker_step hi rfl ⟨none, true⟩ s.queue s.executed (fun _ => ⟨rfl, Or.inl hd⟩) (.refl _)
  | exitClosed i hi hc he =>
    exact hI.worker_step hi rfl ⟨none, true⟩ s.queue s.executed (fun _ => ⟨rfl, Or.inr hc⟩) (.refl _)
  | stopBegin hr =>
    exact { hI with exitedWhy := fun _ => Or.inl rfl, doneNotRunning := fun _ => rfl, closedDone := fun _ => rfl,
                    stoppedAll := fun hst => nomatch hr.symm.trans (hI.stopped_not_running hst) }
  | stopClose hr hd hc =>
    exact { hI with exitedWhy := fun _ => Or.inr rfl, doneNotRunning := fun _ => hr, closedDone := fun _ => hd,
                    stoppedAll := fun hst => nomatch hc.symm.trans (hI.stoppedAll hst).1 }
  | stopDone hc hs hall =>
    cases drains with
    | false => exact { hI with stoppedAll := fun _ => ⟨hc, hall, fun h => nomatch h⟩ }
    | true =>
      refine { hI with perm := ?_, stoppedAll := fun _ => ⟨hc, hall, fun _ => rfl⟩ }
      show (busy s ++ (s.executed ++ (s.queue ++ s.told))).Perm s.accepted
      exact (((List.perm_append_comm_assoc ..).append_left _).trans (List.perm_append_comm_assoc ..)).trans hI.perm

theorem inv_reach (n : Nat) (drains : Bool) (s : St) (h : Reach drains n s) : Inv n drains s := by
  induction h with
  | init => exact inv_init n drains
  | step s s' _ hs ih => exact inv_step n drains s s' ih hs

end Pool
end Absnfs
