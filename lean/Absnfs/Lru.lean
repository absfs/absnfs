/-
  Lru: AttrCache (positive + negative entries) and DirCache (cache.go) as bounded TTL LRU maps.
  `entries` is the access list, most recently used first; the Go map holds exactly these keys.
  Time is a number of nanoseconds on a clock supplied with each operation (virtual clock in the harness).
  Values are opaque (`V`); the harness encodes an attribute record / a listing as a number.
-/
import Absnfs.Bytes
namespace Absnfs
namespace Lru

structure Entry (V : Type) where
  key : Bytes
  val : Option V          -- none = negative entry
  expireAt : Nat
  deriving Repr

structure Cache (V : Type) where
  entries : List (Entry V)
  cap : Nat               -- maxSize / maxEntries (> 0)
  ttl : Nat
  negTtl : Nat
  enableNeg : Bool
  /-- AttrCache: a hit needs now < expireAt (false). DirCache: now ≤ validUntil (true). -/
  hitAtEq : Bool
  deriving Repr

inductive Res (V : Type) where
  | hit (v : V)
  | neg
  | miss
  deriving Repr, DecidableEq

variable {V : Type}

def keys (c : Cache V) : List Bytes := c.entries.map (·.key)

def lookup (c : Cache V) (k : Bytes) : Option (Entry V) := c.entries.find? (·.key == k)

def fresh (c : Cache V) (now : Nat) (e : Entry V) : Bool :=
  if c.hitAtEq then decide (now ≤ e.expireAt) else decide (now < e.expireAt)

def removeKey (l : List (Entry V)) (k : Bytes) : List (Entry V) := l.eraseP (·.key == k)

/-- Get, first critical section: the decision. -/
def getRead (c : Cache V) (now : Nat) (k : Bytes) : Res V :=
  match lookup c k with
  | none => .miss
  | some e =>
    if fresh c now e then (match e.val with | some v => .hit v | none => .neg) else .miss

/-- Get, second critical section after a hit: move to front if the entry still exists. -/
def touch (c : Cache V) (k : Bytes) : Cache V :=
  match lookup c k with
  | none => c
  | some e => { c with entries := e :: removeKey c.entries k }

/-- Get, second critical section after finding an expired entry: remove it if it is (still) strictly expired. -/
def expireRemove (c : Cache V) (now : Nat) (k : Bytes) : Cache V :=
  match lookup c k with
  | none => c
  | some e => if now > e.expireAt then { c with entries := removeKey c.entries k } else c

/-- Sequential Get. -/
def get (c : Cache V) (now : Nat) (k : Bytes) : Cache V × Res V :=
  match getRead c now k with
  | .miss => (expireRemove c now k, .miss)
  | r => (touch c k, r)

/-- Insert or overwrite; a new key on a full cache first evicts the least recently used (last) entry. -/
def putEntry (c : Cache V) (e : Entry V) : Cache V :=
  match lookup c e.key with
  | some _ => { c with entries := e :: removeKey c.entries e.key }
  | none =>
    let base := if c.entries.length ≥ c.cap then c.entries.dropLast else c.entries
    { c with entries := e :: base }

def put (c : Cache V) (now : Nat) (k : Bytes) (v : V) : Cache V :=
  putEntry c { key := k, val := some v, expireAt := now + c.ttl }

def putNegative (c : Cache V) (now : Nat) (k : Bytes) : Cache V :=
  if c.enableNeg then putEntry c { key := k, val := none, expireAt := now + c.negTtl } else c

def invalidate (c : Cache V) (k : Bytes) : Cache V := { c with entries := removeKey c.entries k }

def clear (c : Cache V) : Cache V := { c with entries := [] }

/-- isChildOf(path, dirPath): path is dirPath plus exactly one more component. -/
def isChildOf (path dir : Bytes) : Bool :=
  if dir = [47] then
    if path = [47] ∨ path.length < 2 then false
    else
      let rem := path.drop 1
      !(rem.contains 47) && rem.length > 0
  else
    if path.length ≤ dir.length + 1 then false
    else if path.take dir.length ≠ dir then false
    else if path[dir.length]! ≠ 47 then false
    else
      let rem := path.drop (dir.length + 1)
      !(rem.contains 47) && rem.length > 0

def invalidateNegativeInDir (c : Cache V) (dir : Bytes) : Cache V :=
  { c with entries := c.entries.filter fun e => !(e.val.isNone && isChildOf e.key dir) }

/-- InvalidatePrefix (added by the RENAME repair): the path itself and everything below it. -/
def underPrefix (p path : Bytes) : Bool :=
  let pre := (if path.getLast? = some 47 then path.dropLast else path) ++ [47]
  p == path || pre.isPrefixOf p

def invalidatePrefix (c : Cache V) (path : Bytes) : Cache V :=
  { c with entries := c.entries.filter fun e => !(underPrefix e.key path) }

def effCap (dflt : Nat) (n : Int) : Nat := if n ≤ 0 then dflt else n.toNat

/-- Resize (newSize already defaulted): shrink from the LRU end. -/
def resize (c : Cache V) (n : Nat) : Cache V :=
  if c.cap = n then c else { c with cap := n, entries := c.entries.take n }

def updateTTL (c : Cache V) (t : Nat) : Cache V := { c with ttl := t }

/-- ConfigureNegativeCaching: set the flag, set the TTL if positive; disabling purges negative entries. -/
def configureNegative (c : Cache V) (enable : Bool) (ttl : Int) : Cache V :=
  let c1 := { c with enableNeg := enable, negTtl := if ttl > 0 then ttl.toNat else c.negTtl }
  if enable then c1 else { c1 with entries := c1.entries.filter (·.val.isSome) }

/-- `capPos`: on a full cache `putEntry` makes room by dropping one entry, which needs an entry to drop. -/
structure Inv (c : Cache V) : Prop where
  nodup : (keys c).Nodup
  bounded : c.entries.length ≤ c.cap
  capPos : 0 < c.cap

theorem keys_removeKey (l : List (Entry V)) (k : Bytes) :
    (removeKey l k).map (·.key) = (l.map (·.key)).erase k := by
  rw [List.erase_eq_eraseP', List.eraseP_map]; rfl

theorem lookup_some_mem {c : Cache V} {k : Bytes} {e : Entry V} (h : lookup c k = some e) :
    e ∈ c.entries ∧ e.key = k :=
  ⟨List.mem_of_find?_eq_some h, by simpa using List.find?_some h⟩

theorem lookup_eq_none_iff {c : Cache V} {k : Bytes} : lookup c k = none ↔ k ∉ keys c := by
  simp only [lookup, keys, List.find?_eq_none, List.mem_map, beq_iff_eq, not_exists, not_and]

theorem Inv.sublist {c c' : Cache V} (hI : Inv c) (hs : c'.entries.Sublist c.entries) (hc : c'.cap = c.cap) :
    Inv c' :=
  ⟨hI.nodup.sublist (hs.map _), hc ▸ Nat.le_trans hs.length_le hI.bounded, hc ▸ hI.capPos⟩

theorem inv_invalidate {c : Cache V} (hI : Inv c) (k : Bytes) : Inv (invalidate c k) :=
  hI.sublist List.eraseP_sublist rfl

theorem inv_invalidatePrefix {c : Cache V} (hI : Inv c) (p : Bytes) : Inv (invalidatePrefix c p) :=
  hI.sublist List.filter_sublist rfl

theorem inv_invalidateNegativeInDir {c : Cache V} (hI : Inv c) (d : Bytes) : Inv (invalidateNegativeInDir c d) :=
  hI.sublist List.filter_sublist rfl

theorem inv_moveFront {c : Cache V} (hI : Inv c) {k : Bytes} {e e' : Entry V}
    (hl : lookup c k = some e) (hk : e'.key = k) :
    Inv { c with entries := e' :: removeKey c.entries k } := by
  obtain ⟨hmem, hek⟩ := lookup_some_mem hl
  refine ⟨?_, ?_, hI.capPos⟩
  · show (e'.key :: (removeKey c.entries k).map (·.key)).Nodup
    rw [keys_removeKey, hk]
    exact List.nodup_cons.mpr ⟨hI.nodup.not_mem_erase, hI.nodup.erase k⟩
  · show (removeKey c.entries k).length + 1 ≤ c.cap
    rw [removeKey, List.length_eraseP_of_mem (p := (·.key == k)) hmem (beq_iff_eq.mpr hek),
      Nat.sub_add_cancel (List.length_pos_of_mem hmem)]
    exact hI.bounded

theorem inv_touch {c : Cache V} (hI : Inv c) (k : Bytes) : Inv (touch c k) := by
  unfold touch
  split
  · exact hI
  · next e hl => exact inv_moveFront hI hl (lookup_some_mem hl).2

theorem inv_expireRemove {c : Cache V} (hI : Inv c) (now : Nat) (k : Bytes) : Inv (expireRemove c now k) := by
  unfold expireRemove
  split
  · exact hI
  · split
    · exact inv_invalidate hI k
    · exact hI

theorem inv_get {c : Cache V} (hI : Inv c) (now : Nat) (k : Bytes) : Inv (get c now k).1 := by
  unfold get
  split
  · exact inv_expireRemove hI now k
  · exact inv_touch hI k

theorem inv_putEntry {c : Cache V} (hI : Inv c) (e : Entry V) : Inv (putEntry c e) := by
  unfold putEntry
  split
  · next e0 hl => exact inv_moveFront hI hl rfl
  · next hl =>
    have cons : ∀ base : List (Entry V), base.Sublist c.entries → base.length < c.cap →
        Inv { c with entries := e :: base } := fun base hs hlen =>
      ⟨List.nodup_cons.mpr ⟨fun h => lookup_eq_none_iff.mp hl ((hs.map _).subset h), hI.nodup.sublist (hs.map _)⟩,
        hlen, hI.capPos⟩
    split
    · refine cons _ (List.dropLast_sublist _) ?_
      have := hI.capPos
      have := hI.bounded
      rw [List.length_dropLast]; omega
    · next hroom => exact cons _ (.refl _) (Nat.lt_of_not_le hroom)

theorem inv_put {c : Cache V} (hI : Inv c) (now : Nat) (k : Bytes) (v : V) : Inv (put c now k v) :=
  inv_putEntry hI _

theorem inv_putNegative {c : Cache V} (hI : Inv c) (now : Nat) (k : Bytes) : Inv (putNegative c now k) := by
  unfold putNegative; split
  · exact inv_putEntry hI _
  · exact hI

theorem inv_resize {c : Cache V} (hI : Inv c) (n : Nat) (hn : 0 < n) : Inv (resize c n) := by
  unfold resize
  split
  · exact hI
  · exact ⟨hI.nodup.sublist ((List.take_sublist _ _).map _), List.length_take_le _ _, hn⟩

theorem inv_configureNegative {c : Cache V} (hI : Inv c) (en : Bool) (t : Int) :
    Inv (configureNegative c en t) := by
  cases en
  · exact hI.sublist List.filter_sublist rfl
  · exact hI.sublist (.refl _) rfl

theorem fresh_iff {c : Cache V} {now : Nat} {e : Entry V} :
    fresh c now e = true ↔ if c.hitAtEq then now ≤ e.expireAt else now < e.expireAt := by
  unfold fresh; split <;> simp

theorem fresh_eq_false_iff {c : Cache V} {now : Nat} {e : Entry V} :
    fresh c now e = false ↔ if c.hitAtEq then e.expireAt < now else e.expireAt ≤ now := by
  unfold fresh; split <;> simp

theorem putEntry_hitAtEq (c : Cache V) (e : Entry V) : (putEntry c e).hitAtEq = c.hitAtEq := by
  unfold putEntry; split <;> rfl

theorem lookup_putEntry_self (c : Cache V) (e : Entry V) : lookup (putEntry c e) e.key = some e := by
  unfold putEntry; split <;> simp [lookup]

def NegInv (c : Cache V) : Prop := c.enableNeg = false → ∀ e ∈ c.entries, e.val.isSome = true

theorem NegInv.mono {c c' : Cache V} (h : NegInv c) (hf : c'.enableNeg = c.enableNeg)
    (hs : ∀ e ∈ c'.entries, e ∈ c.entries) : NegInv c' :=
  fun hd e he => h (hf ▸ hd) e (hs e he)

theorem touch_flag (c : Cache V) (k : Bytes) : (touch c k).enableNeg = c.enableNeg := by
  unfold touch; split <;> rfl

theorem touch_sub (c : Cache V) (k : Bytes) : ∀ e ∈ (touch c k).entries, e ∈ c.entries := by
  unfold touch
  split
  · exact fun e he => he
  · rename_i e0 hl
    intro e he
    rcases List.mem_cons.mp he with rfl | he
    · exact (lookup_some_mem hl).1
    · exact List.mem_of_mem_eraseP he

theorem expireRemove_flag (c : Cache V) (now : Nat) (k : Bytes) :
    (expireRemove c now k).enableNeg = c.enableNeg := by
  unfold expireRemove; split
  · rfl
  · split <;> rfl

theorem expireRemove_sub (c : Cache V) (now : Nat) (k : Bytes) :
    ∀ e ∈ (expireRemove c now k).entries, e ∈ c.entries := by
  unfold expireRemove
  split
  · exact fun e he => he
  · split
    · exact fun e he => List.mem_of_mem_eraseP he
    · exact fun e he => he

theorem get_flag (c : Cache V) (now : Nat) (k : Bytes) : (get c now k).1.enableNeg = c.enableNeg := by
  unfold get; split
  · exact expireRemove_flag c now k
  · exact touch_flag c k

theorem get_sub (c : Cache V) (now : Nat) (k : Bytes) : ∀ e ∈ (get c now k).1.entries, e ∈ c.entries := by
  unfold get; split
  · exact expireRemove_sub c now k
  · exact touch_sub c k

theorem putEntry_flag (c : Cache V) (e : Entry V) : (putEntry c e).enableNeg = c.enableNeg := by
  unfold putEntry; split <;> rfl

theorem putEntry_sub (c : Cache V) (e : Entry V) : ∀ x ∈ (putEntry c e).entries, x = e ∨ x ∈ c.entries := by
  intro x hx
  unfold putEntry at hx
  split at hx
  · exact (List.mem_cons.mp hx).imp_right List.mem_of_mem_eraseP
  · refine (List.mem_cons.mp hx).imp_right fun hx => ?_
    split at hx
    · exact (List.dropLast_sublist _).subset hx
    · exact hx

theorem get_snd (c : Cache V) (now : Nat) (k : Bytes) : (get c now k).2 = getRead c now k := by
  unfold get; split <;> simp only [*]

theorem get_entry (c : Cache V) (now : Nat) (k : Bytes) :
    (get c now k).2 = .miss ∨
      ∃ e ∈ c.entries, e.key = k ∧ (get c now k).2 = match e.val with | some v => .hit v | none => .neg := by
  rw [get_snd]
  unfold getRead
  split
  · exact .inl rfl
  · next e hl =>
    split
    · exact .inr ⟨e, (lookup_some_mem hl).1, (lookup_some_mem hl).2, rfl⟩
    · exact .inl rfl

theorem get_hit_entry {c c1 : Cache V} {now : Nat} {k : Bytes} {v : V} (h : get c now k = (c1, .hit v)) :
    ∃ e ∈ c.entries, e.key = k ∧ e.val = some v := by
  rcases get_entry c now k with hm | ⟨e, he, hk, hr⟩ <;> rw [h] at *
  · cases hm
  · refine ⟨e, he, hk, ?_⟩
    split at hr
    · cases hr; assumption
    · cases hr

theorem get_miss (c : Cache V) (now : Nat) (k : Bytes) (h : k ∉ keys c) : (get c now k).2 = .miss := by
  rw [get_snd, getRead, lookup_eq_none_iff.mpr h]

theorem not_mem_keys_invalidate {c : Cache V} (hI : Inv c) (k : Bytes) : k ∉ keys (invalidate c k) := by
  rw [keys, invalidate, keys_removeKey]
  exact hI.nodup.not_mem_erase

theorem invalidate_mem {c : Cache V} (hI : Inv c) {k : Bytes} {e : Entry V} (he : e ∈ (invalidate c k).entries) :
    e ∈ c.entries ∧ e.key ≠ k := by
  refine ⟨List.mem_of_mem_eraseP he, ?_⟩
  rintro rfl
  exact not_mem_keys_invalidate hI _ (List.mem_map_of_mem he)

theorem invalidatePrefix_mem {c : Cache V} {p : Bytes} {e : Entry V} (he : e ∈ (invalidatePrefix c p).entries) :
    e ∈ c.entries ∧ underPrefix e.key p = false := by
  simpa only [invalidatePrefix, List.mem_filter, Bool.not_eq_true'] using he

theorem invalidateNegativeInDir_mem {c : Cache V} {d : Bytes} {e : Entry V} (he : e ∈ (invalidateNegativeInDir c d).entries) :
    e ∈ c.entries := (List.mem_filter.mp he).1

end Lru
end Absnfs
