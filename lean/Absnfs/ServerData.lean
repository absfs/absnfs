/-
  ServerData: file contents at handler level (C01). What an NFS3_OK reply to READ and to WRITE says about the request,
  the backend's bytes and the state left behind (`procRead_ok`, `procWrite_ok`); SetAttr's mode, owner and time
  changes never touch contents; and READ after WRITE, end to end (`read_after_write`).
-/
import Absnfs.ServerOwner
import Absnfs.ServerInv
namespace Absnfs

/-- the model's way of writing a cap: READ's count against the transfer size, FSINFO's maxima -/
theorem clip_eq_min (a b : Nat) : (if a > b then b else a) = min a b := by
  split <;> omega

namespace Server

theorem readData_length (s : St) (e : Fs.Entry) (off cnt : Nat) :
    (readData s e off cnt).length = min (min cnt s.cfg.transfer) ((Fs.infoOf e).size - off) := by
  unfold readData
  split
  · next h => rw [Nat.sub_eq_zero_of_le h, Nat.min_zero]; rfl
  · -- the size is at most the length of the data, so cutting at the size is all the cutting there is
    rw [Fs.slice_length, clip_eq_min]
    exact Nat.min_eq_left (Nat.le_trans (Nat.min_le_right ..) (Nat.sub_le_sub_right (Fs.infoOf_size_le e) off))

theorem readData_getD {s : St} {e : Fs.Entry} {off cnt i : Nat} (hi : i < (readData s e off cnt).length) :
    (readData s e off cnt).getD i 0 = e.data.getD (off + i) 0 := by
  unfold readData at hi ⊢
  split
  · rw [if_pos ‹_›] at hi; cases hi
  · rw [if_neg ‹_›, Fs.slice_length] at hi
    exact Fs.slice_getD _ _ _ _ (Nat.lt_of_lt_of_le hi (Nat.min_le_left ..))

theorem readData_written {s : St} {e : Fs.Entry} {off : Nat} {w : Bytes} (hw : w ≠ []) (hk : e.kind ≠ .dir)
    (ht : w.length ≤ s.cfg.transfer) :
    readData s { e with data := Fs.writeBytes e.data off w } off w.length = w := by
  have hpos := List.length_pos_iff.mpr hw
  have hsize : off + w.length ≤ (Fs.infoOf { e with data := Fs.writeBytes e.data off w }).size := by
    rw [Fs.infoOf_size (e := { e with data := Fs.writeBytes e.data off w }) hk]
    exact (Fs.holds_after_write _ off w hw).1
  unfold readData
  rw [if_neg (by omega), if_neg (Nat.not_lt.mpr ht), Nat.min_eq_left (by omega)]
  exact Fs.slice_writeBytes_self _ _ _ hw

inductive ReadOk (s s' : St) (c : Ctx) (args : Bytes) (o : Option Rfc.Fattr) (cntR : Nat) (eof : Bool) (data : Bytes) : Prop
  | mk {hd off cnt : Nat} {r1 r2 r3 : Bytes} {n : Node} {q : Fs.Path} {e : Fs.Entry} {a : Attrs}
      (hfh : decFh' s args = some (hd, r1)) (hoff : decU64 r1 = some (off, r2)) (hcnt : decU32 r2 = some (cnt, r3))
      (hn : nodeOf s hd = some n) (hopen : Fs.openRead s.fs (fsPath n.path) = .ok (q, e))
      (hg : getAttr s c.now n = (s', .ok a)) (ho : o = some (toFattr a)) (hdata : data = readData s e off cnt)
      (hlen : cntR = data.length) (heof : eof = decide (off + data.length ≥ a.size))

theorem procRead_ok {s s' : St} {c : Ctx} {args : Bytes} {o : Option Rfc.Fattr} {cntR : Nat} {eof : Bool} {data : Bytes}
    (h : procRead s c args = (s', .res ⟨0, .readOk o cntR eof data⟩)) : ReadOk s s' c args o cntR eof data := by
  cases h ▸ procRead_run s c args with
  | refused hr => exact hr.not_ok.elim
  | run hfh hoff hcnt _ _ hn hopen ht =>
    obtain ⟨a, hg, hk⟩ := ht.of_ok
    cases hk
    exact ⟨hfh, hoff, hcnt, hn, hopen, hg, rfl, rfl, rfl, rfl⟩

theorem nodeOf_refreshSize {s : St} {h : Nat} {n : Node} (p : Bytes) (hn : nodeOf s h = some n) :
    ∃ n', nodeOf (refreshSize s h p) h = some n' ∧ n'.path = n.path := by
  unfold refreshSize
  split
  · exact ⟨n, hn, rfl⟩
  · exact ⟨_, nodeOf_updNodeAt_some s h _ n hn, rfl⟩

inductive WriteOk (s s' : St) (args : Bytes) (k com : Nat) (verf : Bytes) : Prop
  | mk {hd off cnt stable : Nat} {r1 r2 r3 r4 r5 r6 data : Bytes} {n n' : Node} {e0 : Fs.Entry} {fs1 : Fs.T}
      (hfh : decFh' s args = some (hd, r1)) (hoff : decU64 r1 = some (off, r2)) (hcnt : decU32 r2 = some (cnt, r3))
      (hstable : decU32 r3 = some (stable, r4)) (hdlen : decU32 r4 = some (cnt, r5)) (hdata : take? cnt r5 = some (data, r6))
      (htr : cnt ≤ s.cfg.transfer) (hmax : exceedsMax s.cfg (off + cnt) = false) (hn : nodeOf s hd = some n)
      (hobj : Fs.walk s.fs (fsPath n.path) = .ok e0) (hnl : e0.kind ≠ .link)
      (hwa : Fs.writeAt s.fs (fsPath n.path) off data = .ok (fs1, k)) (hfs : s'.fs = fs1) (hcfg : s'.cfg = s.cfg)
      (hn' : nodeOf s' hd = some n') (hpath : n'.path = n.path) (hcom : com = 2) (hverf : verf = s.cfg.writeVerf)  -- 2: FILE_SYNC

theorem procWrite_ok {s s' : St} {c : Ctx} {args : Bytes} {w : Rfc.Wcc} {k com : Nat} {verf : Bytes}
    (h : procWrite s c args = (s', .res ⟨0, .writeOk w k com verf⟩)) : WriteOk s s' args k com verf := by
  cases h ▸ procWrite_run s c args with
  | refused hr => exact hr.not_ok.elim
  | @run hd _ off _ _ _ _ _ _ _ _ _ n _ hfh hoff hcnt hstable _ hdlen hdc htr hmax hdata hn hw =>
    cases hw with
    | attrFailed _ hr | postFailed _ _ _ _ hr | opFailed _ _ _ hr => exact (errno_not_ok hr).elim
    | isLink _ _ hr => cases hr
    | @ok s1 _ _ _ _ _ hg hk hop hg2 hr =>
      obtain ⟨_, fs1, hwa, rfl⟩ := writeOp_ok hop
      cases hr; cases hdc
      -- what changed on the way to `s'`: the backend, the attribute cache, the size stored with the handle
      have hpre := getAttr_acOnly hg
      have hpost := getAttr_acOnly hg2
      obtain ⟨e0, hwe0, hke0⟩ := getAttr_pre_walk hg
      obtain ⟨n', hn', hp'⟩ :=
        nodeOf_refreshSize (s := acInv { s1 with fs := fs1 } n.path) n.path ((hpre.nodeOf hd).trans hn)
      rw [hpre.fs] at hwa hwe0
      exact ⟨hfh, hoff, hcnt, hstable, hdlen, hdata, htr, hmax, hn, hwe0, hke0 ▸ hk, hwa,
        hpost.fs.trans (refreshSize_fs ..), hpost.cfg.trans ((refreshSize_unseen ..).cfg.trans hpre.cfg),
        (hpost.nodeOf hd).trans hn', hp', rfl, rfl⟩

theorem exceedsMax_false_iff (c : Cfg) (size : Nat) :
    exceedsMax c size = false ↔ (c.maxFileSize ≤ 0 ∨ (size : Int) ≤ c.maxFileSize) := by
  unfold exceedsMax
  rw [decide_eq_false_iff_not]
  omega

section
open Fs (contentAt)

theorem chownStep_content {fs1 fs2 : Fs.T} {i : Fs.Info} {n : Node} {a : Attrs} (h : chownStep fs1 i n a = .ok fs2)
    (q : Fs.Path) : contentAt fs2 q = contentAt fs1 q := by
  unfold chownStep at h
  split at h
  · split at h
    · exact (Fs.lchown_upd h).same _ q
    · exact (Fs.chown_upd h).same _ q
  · cases h; rfl

theorem setAttrOp_content {s s' : St} {h : Nat} {n : Node} {a : Attrs} {ts : Bool} {r : Option Nat}
    (heq : setAttrOp s h n a ts = (s', r)) (q : Fs.Path) : contentAt s'.fs q = contentAt s.fs q := by
  cases heq ▸ setAttrOp_run s h n a ts with
  | lstatFailed _ hr | chmodFailed _ _ hr => cases hr; rfl
  | chownFailed _ hm _ hr => cases hr; exact (chmodStep_owner hm q).2
  | chtimesFailed _ hm ho _ hr | ok _ hm ho _ hr => cases hr; exact (chownStep_content ho q).trans (chmodStep_owner hm q).2

theorem setattrApply_content {s2 s' : St} {c : Ctx} {h : Nat} {sa : Sattr3} {pre : Attrs} {o : Outcome}
    (heq : setattrApply s2 c h sa pre = (s', o)) (q : Fs.Path) : contentAt s'.fs q = contentAt s2.fs q := by
  cases heq ▸ setattrApply_run s2 c h sa pre with
  | noNode _ hr => cases hr; rfl
  | opFailed _ hop hr => cases hr; exact setAttrOp_content hop q
  | applied _ hop ht => exact (congrArg (contentAt · q) ht.acOnly.fs).trans (setAttrOp_content hop q)

end

/-- C01, end to end: READ after an acknowledged WRITE returns the payload (`Props.C01.read_after_write` says what
    that claims of absnfs) -/
theorem read_after_write (s s1 s2 : St) (c c' : Ctx) (wargs rargs : Bytes) (w : Rfc.Wcc) (k com : Nat) (verf : Bytes)
    (o : Option Rfc.Fattr) (cntR : Nat) (eof : Bool) (rdata : Bytes) (hinv : CInv s)
    (hw : procWrite s c wargs = (s1, .res ⟨0, .writeOk w k com verf⟩))
    (hr : procRead s1 c' rargs = (s2, .res ⟨0, .readOk o cntR eof rdata⟩))
    (hd off : Nat) (w1 w2 q1 q2 q3 : Bytes)
    (hw1 : decFh' s wargs = some (hd, w1)) (hw2 : decU64 w1 = some (off, w2))
    (hr1 : decFh' s1 rargs = some (hd, q1)) (hr2 : decU64 q1 = some (off, q2)) (hr3 : decU32 q2 = some (k, q3))
    (hk : 0 < k) :
    ∀ (cnt stable dlen : Nat) (r3 r4 r5 rest data : Bytes), decU32 w2 = some (cnt, r3) → decU32 r3 = some (stable, r4) →
      decU32 r4 = some (dlen, r5) → take? cnt r5 = some (data, rest) → rdata = data ∧ cntR = data.length := by
  intro cnt stable dlen r3 r4 r5 rest data d3 d4 d5 d6
  cases procWrite_ok hw with
  | mk e1 e2 e3 e4 e5 e6 htr _ hn hobj hnl hwa hfs hcfg hn' hpath =>
  cases hw1.symm.trans e1; cases hw2.symm.trans e2; cases d3.symm.trans e3
  cases d4.symm.trans e4; cases d5.symm.trans e5; cases d6.symm.trans e6
  -- the object is no symlink: its own entry was written, and the READ finds it under the same path
  obtain ⟨rfl, hnd, hopen'⟩ := Fs.openRead_after_writeAt hinv.wf hobj hnl hk hwa
  cases procRead_ok hr with
  | mk f1 f2 f3 hn2 hopen _ _ hdata hlen =>
  subst hlen hdata
  cases hr1.symm.trans f1; cases hr2.symm.trans f2; cases hr3.symm.trans f3
  cases hn'.symm.trans hn2
  rw [hpath, hfs] at hopen
  cases hopen'.symm.trans hopen
  rw [readData_written (List.length_pos_iff.mp hk) hnd (by rw [hcfg, (take?_some d6).2]; exact htr)]
  exact ⟨rfl, rfl⟩

end Server
end Absnfs
