/-
  ServerPaths: the shape of every path the server builds (C07), and byte paths versus component paths: on the
  clean absolute paths the server builds (`CleanPath`), `fsPath` (how the backend reads a path) is injective, turns
  `joinName` into appending a component, and a component prefix passes the cache's byte-prefix test
  (`underPrefix_of_prefix`). `HandlesClean` (the handle table holds clean paths only) is kept by `allocate`; what MNT
  makes of its argument (`cleanAbs`, path.Clean) is a clean path.
-/
import Absnfs.ServerFrame
import Absnfs.HandlesInv
namespace Absnfs

namespace Server

def NoSep (c : Bytes) : Prop := c ≠ [] ∧ 47 ∉ c ∧ c ≠ [46] ∧ c ≠ [46, 46]

/-- absolute and normalized: "/" or "/c1/c2/…" with every component free of '/', non-empty, not "." or ".." -/
inductive CleanPath : Bytes → Prop
  | root : CleanPath [47]
  | child (d name : Bytes) (hd : CleanPath d) (hn : NoSep name) : CleanPath (joinName d name)

theorem reject_eq_zero {c : Prop} [Decidable c] {k e : Nat} (hk : k ≠ 0) : (if c then k else e) = 0 ↔ ¬c ∧ e = 0 := by
  split <;> simp [*]

theorem validateFilename_eq_zero (n : Bytes) :
    validateFilename n = 0 ↔
      (n ≠ [] ∧ n.length ≤ 255 ∧ (0 : UInt8) ∉ n ∧ (47 : UInt8) ∉ n ∧ (92 : UInt8) ∉ n ∧ n ≠ [46] ∧ n ≠ [46, 46]) := by
  simp [validateFilename, reject_eq_zero, and_assoc]

theorem noSep_of_valid (n : Bytes) (h : validateFilename n = 0) : NoSep n := by
  obtain ⟨a, _, _, d, _, f, g⟩ := (validateFilename_eq_zero n).mp h
  exact ⟨a, d, f, g⟩

theorem joinName_clean (d name : Bytes) (hd : CleanPath d) (hv : validateFilename name = 0) : CleanPath (joinName d name) :=
  .child d name hd (noSep_of_valid name hv)

/-- the hypothesis is `lookupEach`'s filter -/
theorem listing_name_noSep (n : Bytes)
    (h : ¬ (n = [46] ∨ n = [46, 46] ∨ n = [] ∨ n.contains 47 = true ∨ n.contains 92 = true)) : NoSep n := by
  simp only [not_or, List.contains_eq_mem, decide_eq_true_eq] at h
  exact ⟨h.2.2.1, h.2.2.2.1, h.1, h.2.1⟩

theorem joinName_eq (d name : Bytes) : joinName d name = (if d = [47] then [] else d) ++ 47 :: name := by
  unfold joinName; split <;> rfl

theorem joinName_ne_root (d : Bytes) {name : Bytes} (hn : name ≠ []) : joinName d name ≠ [47] := by
  intro h
  have := congrArg List.length h
  rw [joinName_eq, List.length_append, List.length_cons, List.length_singleton] at this
  exact hn (List.eq_nil_of_length_eq_zero (by omega))

theorem foldl_join_clean (cs : List Bytes) (h : ∀ c ∈ cs, NoSep c) {acc : Bytes} (hacc : CleanPath acc) (hroot : acc ≠ [47]) :
    CleanPath (cs.foldl (fun a c => a ++ 47 :: c) acc) := by
  induction cs generalizing acc with
  | nil => exact hacc
  | cons c cs ih =>
    have hc := h c (List.mem_cons_self ..)
    have : acc ++ 47 :: c = joinName acc c := by rw [joinName_eq, if_neg hroot]
    rw [List.foldl_cons, this]
    exact ih (fun x hx => h x (List.mem_cons_of_mem _ hx)) (.child acc c hacc hc) (joinName_ne_root acc hc.1)

theorem join_clean {comps : List Bytes} (h : ∀ c ∈ comps, NoSep c) (hne : comps ≠ []) :
    CleanPath (comps.foldl (fun a c => a ++ 47 :: c) []) := by
  cases comps with
  | nil => exact absurd rfl hne
  | cons c cs =>
    have hc := h c (List.mem_cons_self ..)
    show CleanPath (cs.foldl _ (joinName [47] c))
    exact foldl_join_clean cs (fun x hx => h x (List.mem_cons_of_mem _ hx)) (.child [47] c .root hc)
      (joinName_ne_root _ hc.1)

theorem nodeOf_eq_some {s : St} {h : Nat} {n : Node} :
    nodeOf s h = some n ↔
      Handles.get s.hs h = some n.path ∧ (s.nodes.find? (·.1 == h)).map (·.2) = some n.attrs := by
  unfold nodeOf
  cases Handles.get s.hs h with
  | none => simp
  | some p =>
    cases s.nodes.find? (·.1 == h) with
    | none => simp
    | some x => cases n; simp

def HandlesClean (s : St) : Prop := ∀ x ∈ s.hs.live, CleanPath x.2

theorem HandlesClean.of_hs {s s' : St} (hc : HandlesClean s) (h : s'.hs = s.hs) : HandlesClean s' :=
  fun x hx => hc x (h ▸ hx)

theorem nodeOf_clean {s : St} {h : Nat} {n : Node} (hc : HandlesClean s) (hn : nodeOf s h = some n) : CleanPath n.path :=
  hc _ (Handles.mem_of_get (nodeOf_eq_some.mp hn).1)

theorem allocate_clean (s : St) (n : Node) (hc : HandlesClean s) (hp : CleanPath n.path) : HandlesClean (allocate s n).1 := by
  intro x hx
  rcases Handles.mem_alloc_live hx with h | h
  · rw [h]; exact hp
  · exact hc x h

/-- what `readDir` hands on: `refreshEach` caches each node's attributes under the fileid the node carries, so that
    has to be its path's -/
def NodesOK (l : List Node) : Prop := ∀ m ∈ l, CleanPath m.path ∧ m.attrs.fileId = fnv64 m.path

theorem refreshEach_clean (s : St) (now : Nat) {l : List Node} (hl : ∀ m ∈ l, CleanPath m.path) :
    ∀ m ∈ (refreshEach s now l).2, CleanPath m.path := by
  rw [refreshEach_snd]
  intro m hm
  obtain ⟨m0, hm0, rfl⟩ := List.mem_map.mp hm
  exact refreshed_path s.fs m0 ▸ hl m0 hm0

theorem fsPath_root : fsPath [47] = [] := by decide

theorem fsPath_append_name (x : Bytes) {name : Bytes} (hn : NoSep name) : fsPath (x ++ 47 :: name) = fsPath x ++ [name] := by
  obtain ⟨h1, h2, h3, _⟩ := hn
  simp [fsPath, splitOnByte_append_sep, splitOnByte_noSep 47 name h2, h1, h3]

theorem fsPath_joinName (d name : Bytes) (hn : NoSep name) : fsPath (joinName d name) = fsPath d ++ [name] := by
  unfold joinName
  split
  · subst ‹d = [47]›; exact fsPath_append_name [] hn
  · exact fsPath_append_name d hn

theorem fsPath_child_ne (d name : Bytes) (hn : NoSep name) : fsPath d ≠ fsPath (joinName d name) := by
  rw [fsPath_joinName d name hn]
  intro h
  have := congrArg List.length h
  simp at this

theorem baseName_joinName (d name : Bytes) (hn : NoSep name) : baseName (joinName d name) = name := by
  obtain ⟨h1, h2, _, _⟩ := hn
  have last : ∀ x : Bytes, baseName (x ++ 47 :: name) = name := fun x => by
    unfold baseName
    rw [splitOnByte_append_sep, splitOnByte_noSep 47 name h2, List.filter_append]
    cases (splitOnByte 47 x).filter (· ≠ []) with
    | nil => simp [h1]
    | cons a as =>
      simp only [h1, List.filter_cons_of_pos, List.filter_nil, ne_eq, not_false_eq_true, decide_true]
      show ((a :: as) ++ [name]).getLast! = name
      rw [List.getLast!_eq_getLast?_getD, List.getLast?_concat]; rfl
  unfold joinName
  split
  · exact last []
  · exact last d

theorem cleanPath_ne_nil {p : Bytes} (h : CleanPath p) : p ≠ [] := by
  cases h with
  | root => simp
  | child d name hd hn => simp [joinName_eq]

theorem fsPath_inj {p q : Bytes} (hp : CleanPath p) (hq : CleanPath q) (h : fsPath p = fsPath q) : p = q := by
  induction hp generalizing q with
  | root =>
    cases hq with
    | root => rfl
    | child d name hd hn => simp [fsPath_root, fsPath_joinName d name hn] at h
  | child d name hd hn ih =>
    cases hq with
    | root => simp [fsPath_root, fsPath_joinName d name hn] at h
    | child d' name' hd' hn' =>
      rw [fsPath_joinName d name hn, fsPath_joinName d' name' hn'] at h
      obtain ⟨h1, h2⟩ := List.append_inj' h rfl
      rw [ih hd' h1, List.singleton_inj.mp h2]

/-- a clean path other than the root does not end in '/': the trailing '/' `underPrefix` strips is the root's only -/
theorem underPrefix_clean {p : Bytes} (hp : CleanPath p) (k : Bytes) :
    Lru.underPrefix k p = (k == p || ((if p = [47] then [] else p) ++ [47]).isPrefixOf k) := by
  cases hp with
  | root => rfl
  | child d name hd hn =>
    have hl : (joinName d name).getLast? = name.getLast? := by
      rw [joinName_eq, List.getLast?_append, List.getLast?_cons]
      cases hg : name.getLast? with
      | none => exact absurd (List.getLast?_eq_none_iff.mp hg) hn.1
      | some x => rfl
    have h47 : name.getLast? ≠ some 47 := fun h => hn.2.1 (List.mem_of_getLast? h)
    simp [Lru.underPrefix, hl, h47, joinName_ne_root d hn.1]

/-- C02 (RENAME): `InvalidatePrefix(p)` drops every entry whose key is at or below `p` in the tree -/
theorem underPrefix_of_prefix {p k : Bytes} (hp : CleanPath p) (hk : CleanPath k)
    (h : fsPath p <+: fsPath k) : Lru.underPrefix k p = true := by
  rw [underPrefix_clean hp, Bool.or_eq_true, beq_iff_eq, List.isPrefixOf_iff_prefix]
  induction hk with
  | root => exact .inl (fsPath_inj .root hp (List.prefix_nil.mp h).symm)
  | child d name hd hn ih =>
    rw [fsPath_joinName d name hn, List.prefix_concat_iff] at h
    rcases h with h | h
    · exact .inl (fsPath_inj hp (.child d name hd hn) (by rw [h, fsPath_joinName d name hn])).symm
    · right
      rw [joinName_eq]
      rcases ih h with rfl | h1
      · exact ⟨name, by simp⟩
      · -- `d` is below `p`, and `d` is a byte prefix of `joinName d name`
        refine h1.trans ?_
        split
        · subst ‹d = [47]›; exact ⟨name, rfl⟩
        · exact List.prefix_append ..

theorem applyTarget_noSep (base : Fs.Path) (t : Bytes) (hb : ∀ c ∈ base, NoSep c) : ∀ c ∈ Fs.applyTarget base t, NoSep c := by
  unfold Fs.applyTarget
  simp only
  have hpieces := splitOnByte_pieces_noSep 47 t
  generalize splitOnByte 47 t = comps at hpieces
  have hstart : ∀ c ∈ (if t.head? = some 47 then ([] : Fs.Path) else base), NoSep c := by
    split
    · simp
    · exact hb
  generalize (if t.head? = some 47 then ([] : Fs.Path) else base) = start at hstart
  induction comps generalizing start with
  | nil => exact hstart
  | cons x xs ih =>
    refine ih (fun c hc => hpieces c (List.mem_cons_of_mem _ hc)) _ ?_
    dsimp only
    split
    · exact hstart
    · rename_i h1
      split
      · exact fun c hc => hstart c (List.dropLast_subset _ hc)
      · rename_i h2
        intro c hc
        rcases List.mem_append.mp hc with hc | hc
        · exact hstart c hc
        · cases List.mem_singleton.mp hc
          exact ⟨fun h => h1 (.inl h), hpieces x (List.mem_cons_self ..), fun h => h1 (.inr h), h2⟩

theorem cleanAbs_clean (raw : Bytes) : CleanPath (cleanAbs raw) := by
  unfold cleanAbs
  simp only
  split
  · exact .root
  · exact join_clean (applyTarget_noSep [] raw (by simp)) ‹_›

end Server
end Absnfs
