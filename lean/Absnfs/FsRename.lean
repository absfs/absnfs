/-
  FsRename: what Rename's subtree move does to the map, that it keeps the model well-formed, and that it only
  changes what Lstat shows at or below the two names.
-/
import Absnfs.FsFrame
namespace Absnfs
namespace Fs

theorem isPrefix_iff (a b : Path) : isPrefix a b = true ↔ a <+: b := List.isPrefixOf_iff_prefix

section move
variable (a b : Path)

/-- where `moveTree` stores what was stored at `q`, if it keeps it -/
def movedTo (q : Path) : Path := if isPrefix a q then b ++ q.drop a.length else q

theorem movedTo_append (t : Path) : movedTo a b (a ++ t) = b ++ t := by
  rw [movedTo, if_pos ((isPrefix_iff ..).mpr (List.prefix_append a t)), List.drop_left]

theorem movedTo_of_not_prefix {q : Path} (h : ¬ a <+: q) : movedTo a b q = q :=
  if_neg fun hp => h ((isPrefix_iff ..).mp hp)

theorem get_moveTree (fs : T) (x : Path) :
    get (moveTree fs a b) x = (fs.ents.find? fun y => decide (¬ b <+: y.1 ∧ movedTo a b y.1 = x)).map (·.2) := by
  have hf : ∀ y : Path × Entry,
      (if isPrefix a y.1 = true then (b ++ y.1.drop a.length, y.2) else (y.1, y.2)) = (movedTo a b y.1, y.2) := by
    intro y; unfold movedTo; split <;> rfl
  simp only [get, moveTree, List.find?_map, List.find?_filter, Option.map_map, Function.comp_def, hf]
  simp only [Bool.not_eq_true', beq_iff_eq, ← Bool.not_eq_true, isPrefix_iff]

/-- moved paths land below `b`, where nothing was kept -/
theorem movedTo_inj {x y : Path} (hx : ¬ b <+: x) (hy : ¬ b <+: y) (h : movedTo a b x = movedTo a b y) : x = y := by
  by_cases hax : a <+: x <;> by_cases hay : a <+: y
  · obtain ⟨s, rfl⟩ := hax
    obtain ⟨t, rfl⟩ := hay
    rw [movedTo_append, movedTo_append] at h
    rw [List.append_cancel_left h]
  · obtain ⟨s, rfl⟩ := hax
    rw [movedTo_append, movedTo_of_not_prefix a b hay] at h
    exact absurd (h ▸ List.prefix_append b s) hy
  · obtain ⟨t, rfl⟩ := hay
    rw [movedTo_append, movedTo_of_not_prefix a b hax] at h
    exact absurd (h ▸ List.prefix_append b t) hx
  · rwa [movedTo_of_not_prefix a b hax, movedTo_of_not_prefix a b hay] at h

theorem get_moveTree_of_kept (fs : T) {x : Path} (hx : ¬ b <+: x) : get (moveTree fs a b) (movedTo a b x) = get fs x := by
  rw [get_moveTree, get]
  congr 2; funext y
  rw [Bool.eq_iff_iff, decide_eq_true_eq, beq_iff_eq]
  exact ⟨fun h => movedTo_inj a b h.1 hx h.2, fun h => h.symm ▸ ⟨hx, rfl⟩⟩

theorem get_moveTree_other (fs : T) (x : Path) (ha : ¬ a <+: x) (hb : ¬ b <+: x) : get (moveTree fs a b) x = get fs x := by
  rw [← get_moveTree_of_kept a b fs hb, movedTo_of_not_prefix a b ha]

theorem get_moveTree_moved (fs : T) (hab : ¬ a <+: b) (hba : ¬ b <+: a) (r : Path) :
    get (moveTree fs a b) (b ++ r) = get fs (a ++ r) := by
  have hkept : ¬ b <+: a ++ r := fun h => (List.prefix_or_prefix_of_prefix h (List.prefix_append a r)).elim hba hab
  rw [← get_moveTree_of_kept a b fs hkept, movedTo_append]

theorem get_moveTree_under_a (fs : T) (x : Path) (ha : a <+: x) (hb : ¬ b <+: x) : get (moveTree fs a b) x = none := by
  rw [get_moveTree, List.find?_eq_none.mpr, Option.map_none]
  intro y _
  rw [decide_eq_true_eq]
  intro ⟨_, h⟩
  by_cases hq : a <+: y.1
  · obtain ⟨t, ht⟩ := hq
    rw [← ht, movedTo_append] at h
    exact hb (h ▸ List.prefix_append b t)
  · rw [movedTo_of_not_prefix a b hq] at h
    exact hq (h ▸ ha)

theorem nodup_moveTree {fs : T} (h : NoDupKeys fs) : NoDupKeys (moveTree fs a b) := by
  unfold NoDupKeys at h ⊢
  have hkeys : (moveTree fs a b).ents.map (·.1) =
      ((fs.ents.map (·.1)).filter fun q => !isPrefix b q).map (movedTo a b) := by
    simp only [moveTree, List.map_map, List.filter_map]
    apply List.map_congr_left
    intro y _
    simp only [Function.comp, movedTo]
    split <;> rfl
  rw [hkeys, List.nodup_iff_pairwise_ne, List.pairwise_map]
  refine List.Pairwise.imp_of_mem ?_ (List.nodup_iff_pairwise_ne.mp (h.sublist List.filter_sublist))
  intro x y hx hy hne hxy
  have nb : ∀ z, z ∈ (fs.ents.map (·.1)).filter (fun q => !isPrefix b q) → ¬ b <+: z := fun z hz hbz => by
    have := (List.mem_filter.mp hz).2
    rw [(isPrefix_iff b z).mpr hbz] at this
    cases this
  exact hne (movedTo_inj a b (nb x hx) (nb y hy) hxy)

theorem wf_moveTree {fs : T} (hw : WF fs) (hab : ¬ a <+: b) (hba : ¬ b <+: a) (hbne : b ≠ [])
    {pb : Entry} (hpb : get fs b.dropLast = some pb) (hpbd : pb.kind = .dir) : WF (moveTree fs a b) := by
  refine ⟨?_, nodup_moveTree a b hw.2⟩
  intro q e hq hqne
  by_cases hbq : b <+: q
  · obtain ⟨r, rfl⟩ := hbq
    rw [get_moveTree_moved a b fs hab hba] at hq
    by_cases hr0 : r = []
    · -- `b` itself: its parent lies outside both subtrees
      subst hr0
      have h1 : ¬ a <+: b.dropLast := fun h => hab (h.trans (List.dropLast_prefix b))
      have h2 : ¬ b <+: b.dropLast := fun h =>
        not_concat_prefix b.dropLast (b.getLast hbne) (by rwa [List.dropLast_concat_getLast hbne])
      rw [List.append_nil, get_moveTree_other a b fs _ h1 h2]
      exact ⟨pb, hpb, hpbd⟩
    · -- below `b`: the parent moved along
      obtain ⟨pe, hpe, hd⟩ := hw.1 (a ++ r) e hq (by simp [hr0])
      rw [List.dropLast_append_of_ne_nil hr0] at hpe
      rw [List.dropLast_append_of_ne_nil hr0, get_moveTree_moved a b fs hab hba]
      exact ⟨pe, hpe, hd⟩
  · by_cases haq : a <+: q
    · rw [get_moveTree_under_a a b fs q haq hbq] at hq
      cases hq
    · rw [get_moveTree_other a b fs q haq hbq] at hq
      obtain ⟨pe, hpe, hd⟩ := hw.1 q e hq hqne
      have h1 : ¬ a <+: q.dropLast := fun h => haq (h.trans (List.dropLast_prefix q))
      have h2 : ¬ b <+: q.dropLast := fun h => hbq (h.trans (List.dropLast_prefix q))
      rw [get_moveTree_other a b fs _ h1 h2]
      exact ⟨pe, hpe, hd⟩

end move

theorem viewAt_moveTree_other (fs : T) (a b x : Path) (ha : ¬ a <+: x) (hb : ¬ b <+: x) :
    viewAt (moveTree fs a b) x = viewAt fs x := by
  unfold viewAt; rw [get_moveTree_other a b fs x ha hb]

theorem children_ne_nil_of_below {fs : T} (hw : WF fs) {b q : Path} {e : Entry} (hg : get fs q = some e) (hb : b <+: q) (hne : b ≠ q) :
    children fs b ≠ [] := by
  obtain ⟨r, rfl⟩ := hb
  cases r with
  | nil => simp at hne
  | cons c cs =>
    obtain ⟨pe, hpe, _⟩ := prefix_is_dir hw hg (p := b ++ [c]) ⟨cs, by simp⟩
    exact children_ne_nil_of_get hpe

theorem rename_moves {fs fs1 : T} {a b : Path} (h : rename fs a b = .ok fs1) (hw : WF fs) :
    fs1 = fs ∨ fs1 = moveTree fs a b ∧ ¬ a <+: b ∧ ¬ b <+: a ∧ b ≠ [] ∧
      ∃ pb, get fs b.dropLast = some pb ∧ pb.kind = .dir := by
  obtain ⟨ea, hwa, h0 | ⟨rfl, hchk, hb⟩⟩ := rename_ok h
  · exact .inl h0
  have hga := walk_ok_get hwa
  obtain ⟨hneab, hbne, ⟨pb, hgpb, hpbd⟩, hba⟩ :
      a ≠ b ∧ b ≠ [] ∧ (∃ pb, get fs b.dropLast = some pb ∧ pb.kind = .dir) ∧ ¬ b <+: a := by
    rcases hb with ⟨hwb, hc⟩ | ⟨eb, hwb, hbne, hneab, hkind, hch⟩
    · -- the new name is free: nothing is stored at it, so nothing below it either
      have hgb := get_none_of_walk_err hw hwb
      obtain ⟨hbne, pb, hpb, hpbd⟩ := canCreate_ok hc
      refine ⟨fun e => ?_, hbne, ⟨pb, walk_ok_get hpb, hpbd⟩, fun hp => ?_⟩
      · rw [e, hgb] at hga; cases hga
      · obtain ⟨pe, hpe, _⟩ := prefix_is_dir hw hga hp
        rw [hgb] at hpe; cases hpe
    · -- the new name exists: were it strictly above `a` it would be a directory with a child, which is refused
      have hgb := walk_ok_get hwb
      refine ⟨hneab, hbne, hw.1 b eb hgb hbne, fun hp => ?_⟩
      obtain ⟨pe, hpe, hd⟩ := prefix_is_dir hw hga hp
      rw [hgb] at hpe; cases hpe
      exact hch ⟨hkind.mpr (hd (Ne.symm hneab)), children_ne_nil_of_below hw hga hp (Ne.symm hneab)⟩
  refine .inr ⟨rfl, fun hp => hchk ⟨?_, (isPrefix_iff ..).mpr (prefix_dropLast hp hneab)⟩, hba, hbne, pb, hgpb, hpbd⟩
  -- `a` at or above the directory `b.dropLast` is a directory: the move into itself that Rename refuses
  obtain ⟨pe, hpe, hd⟩ := prefix_is_dir hw hgpb (prefix_dropLast hp hneab)
  rw [hga] at hpe; cases hpe
  by_cases heq : a = b.dropLast
  · rw [← heq, hga] at hgpb; cases hgpb; exact hpbd
  · exact hd heq

theorem rename_frame {fs fs1 : T} {a b : Path} (h : rename fs a b = .ok fs1) (hw : WF fs) :
    WF fs1 ∧ ∀ q, ¬ a <+: q → ¬ b <+: q → viewAt fs1 q = viewAt fs q := by
  rcases rename_moves h hw with rfl | ⟨rfl, hab, hba, hbne, pb, hpb, hpbd⟩
  · exact ⟨hw, fun _ _ _ => rfl⟩
  · exact ⟨wf_moveTree a b hw hab hba hbne hpb hpbd, fun q => viewAt_moveTree_other fs a b q⟩

theorem rename_parents {fs fs1 : T} {d1 d2 : Path} {n1 n2 : Name} (h : rename fs (d1 ++ [n1]) (d2 ++ [n2]) = .ok fs1) (hw : WF fs) :
    viewAt fs1 d1 = viewAt fs d1 ∧ viewAt fs1 d2 = viewAt fs d2 := by
  rcases rename_moves h hw with rfl | ⟨rfl, hab, hba, -⟩
  · exact ⟨rfl, rfl⟩
  · exact ⟨viewAt_moveTree_other fs _ _ d1 (not_concat_prefix d1 n1) fun hp => hba (hp.trans (List.prefix_append d1 [n1])),
      viewAt_moveTree_other fs _ _ d2 (fun hp => hab (hp.trans (List.prefix_append d2 [n2]))) (not_concat_prefix d2 n2)⟩

end Fs
end Absnfs
