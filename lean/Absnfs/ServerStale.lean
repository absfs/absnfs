/-
  ServerStale: a request whose file handle is not in the table is refused without touching anything (C06, second
  clause, at handler level). By `ServerRun` a call is either a `Refusal` with the procedure's failure body, which
  is bare, or it ran, and then its handle was found in the table (`not_ran`).
-/
import Absnfs.ServerRun
namespace Absnfs
namespace Server

/-- the reply bodies of refusals: no attributes, no data -/
def BareBody (b : Rfc.Body) : Prop :=
  b = .statusOnly ∨ b = .postOp none ∨ b = .wcc wcc0 ∨ b = .wcc2 wcc0 wcc0 ∨ b = .linkRes none wcc0

/-- ServerRun's `Refusal b` with the body forgotten down to `BareBody` (`Refusal.refused`) -/
def Refused (s : St) (r : St × Outcome) : Prop :=
  r.1 = s ∧ ∃ st b, r.2 = res st b ∧ st ≠ 0 ∧ BareBody b

theorem BareBody.statusOnly : BareBody .statusOnly := .inl rfl
theorem BareBody.postOp : BareBody (.postOp none) := .inr (.inl rfl)
theorem BareBody.wcc : BareBody (.wcc wcc0) := .inr (.inr (.inl rfl))
theorem BareBody.wcc2 : BareBody (.wcc2 wcc0 wcc0) := .inr (.inr (.inr (.inl rfl)))
theorem BareBody.linkRes : BareBody (.linkRes none wcc0) := .inr (.inr (.inr (.inr rfl)))

variable {s : St} {c : Ctx} {args r1 : Bytes} {h : Nat}

theorem Refusal.refused {b : Rfc.Body} {r : St × Outcome} (hr : Refusal b s r) (hb : BareBody b) : Refused s r := by
  obtain ⟨st, h0, -, rfl⟩ := hr
  exact ⟨rfl, st, b, rfl, h0, hb⟩

section
variable (hfh : decFh' s args = some (h, r1)) (hn : nodeOf s h = none)
include hfh hn

theorem not_ran {h' : Nat} {r1' : Bytes} {n : Node} (hfh' : decFh' s args = some (h', r1'))
    (hn' : nodeOf s h' = some n) : False := by
  cases hfh.symm.trans hfh'
  cases hn.symm.trans hn'

theorem procGetattr_dead : Refused s (procGetattr s c args) := by
  cases procGetattr_run s c args with
  | refused hr => exact hr.refused .statusOnly
  | run => exact (not_ran hfh hn ‹_› ‹_›).elim

theorem procSetattr_dead : Refused s (procSetattr s c args) := by
  cases procSetattr_run s c args with
  | refused hr => exact hr.refused .wcc
  | run => exact (not_ran hfh hn ‹_› ‹_›).elim

theorem procLookup_dead : Refused s (procLookup s c args) := by
  cases procLookup_run s c args with
  | refused hr => exact hr.refused .postOp
  | run => exact (not_ran hfh hn ‹_› ‹_›).elim

theorem procAccess_dead : Refused s (procAccess s c args) := by
  cases procAccess_run s c args with
  | refused hr => exact hr.refused .postOp
  | run => exact (not_ran hfh hn ‹_› ‹_›).elim

theorem procReadlink_dead : Refused s (procReadlink s c args) := by
  cases procReadlink_run s c args with
  | refused hr => exact hr.refused .postOp
  | run => exact (not_ran hfh hn ‹_› ‹_›).elim

theorem procRead_dead : Refused s (procRead s c args) := by
  cases procRead_run s c args with
  | refused hr => exact hr.refused .postOp
  | run => exact (not_ran hfh hn ‹_› ‹_›).elim

theorem procWrite_dead : Refused s (procWrite s c args) := by
  cases procWrite_run s c args with
  | refused hr => exact hr.refused .wcc
  | run => exact (not_ran hfh hn ‹_› ‹_›).elim

theorem procCreate_dead : Refused s (procCreate s c args) := by
  cases procCreate_run s c args with
  | refused hr => exact hr.refused .wcc
  | run => exact (not_ran hfh hn ‹_› ‹_›).elim

theorem procMkdir_dead : Refused s (procMkdir s c args) := by
  cases procMkdir_run s c args with
  | refused hr => exact hr.refused .wcc
  | run => exact (not_ran hfh hn ‹_› ‹_›).elim

theorem procSymlink_dead : Refused s (procSymlink s c args) := by
  cases procSymlink_run s c args with
  | refused hr => exact hr.refused .wcc
  | run => exact (not_ran hfh hn ‹_› ‹_›).elim

theorem procRemove_dead : Refused s (procRemove s c args) := by
  cases procRemove_run s c args with
  | refused hr => exact hr.refused .wcc
  | run => exact (not_ran hfh hn ‹_› ‹_›).elim

theorem procRmdir_dead : Refused s (procRmdir s c args) := by
  cases procRmdir_run s c args with
  | refused hr => exact hr.refused .wcc
  | run => exact (not_ran hfh hn ‹_› ‹_›).elim

theorem procRename_dead : Refused s (procRename s c args) := by
  cases procRename_run s c args with
  | refused hr => exact hr.refused .wcc2
  | run => exact (not_ran hfh hn ‹_› ‹_›).elim

theorem procReaddir_dead : Refused s (procReaddir s c args) := by
  cases procReaddir_run s c args with
  | refused hr => exact hr.refused .postOp
  | run => exact (not_ran hfh hn ‹_› ‹_›).elim

theorem procReaddirplus_dead : Refused s (procReaddirplus s c args) := by
  cases procReaddirplus_run s c args with
  | refused hr => exact hr.refused .postOp
  | run => exact (not_ran hfh hn ‹_› ‹_›).elim

theorem procCommit_dead : Refused s (procCommit s c args) := by
  cases procCommit_run s c args with
  | refused hr => exact hr.refused .wcc
  | run => exact (not_ran hfh hn ‹_› ‹_›).elim

theorem withObjAttr_dead (k : Rfc.Fattr → Rfc.Body) : Refused s (withObjAttr s c args k) := by
  cases withObjAttr_run s c args k with
  | refused hr => exact hr.refused .postOp
  | run => exact (not_ran hfh hn ‹_› ‹_›).elim

end

theorem procRename_dead2 {h1 h2 : Nat} {n1 r2 r3 : Bytes} (hfh : decFh' s args = some (h1, r1)) (hs1 : decStr s r1 = some (n1, r2))
    (hfh2 : decFh' s r2 = some (h2, r3)) (hn : nodeOf s h2 = none) : Refused s (procRename s c args) := by
  cases procRename_run s c args with
  | refused hr => exact hr.refused .wcc2
  | run _ hfh' hs1' _ hfh2' _ _ _ hd2 =>
    cases hfh.symm.trans hfh'
    cases hs1.symm.trans hs1'
    exact (not_ran hfh2 hn hfh2' hd2).elim

end Server
end Absnfs
