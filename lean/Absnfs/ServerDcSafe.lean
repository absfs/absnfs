/-
  ServerDcSafe: the steps that cannot hurt a cached directory listing. After a step `Safe s s'` a cached listing
  still names every child of its key (`dcSup_of_safe` in ServerDcSup). Every step of `Blocks` that creates no name is
  such a step — all of them but the backend calls of CREATE, MKDIR, SYMLINK and RENAME and the store of READDIR —
  which is how most fields of `dcSup_blocks` are filled.
-/
import Absnfs.ServerFrame
import Absnfs.FsRename
namespace Absnfs
namespace Server

/-- `_ex` in the names below: what a backend operation does to `existsAt` -/
def existsAt (fs : Fs.T) (q : Fs.Path) : Bool := (Fs.get fs q).isSome

theorem lstat_of_existsAt {fs : Fs.T} (hw : Fs.WF fs) {q : Fs.Path} (h : existsAt fs q = true) : ∃ i, Fs.lstat fs q = .ok i := by
  obtain ⟨e, hg⟩ := Option.isSome_iff_exists.mp h
  exact ⟨Fs.infoOf e, by unfold Fs.lstat; rw [Fs.walk_eq_of_get hw hg]; rfl⟩

theorem existsAt_of_lstat {fs : Fs.T} {q : Fs.Path} {i : Fs.Info} (h : Fs.lstat fs q = .ok i) : existsAt fs q = true := by
  obtain ⟨e, hwe, _⟩ := Fs.lstat_ok_walk h
  unfold existsAt
  rw [Fs.walk_ok_get hwe]; rfl

theorem not_existsAt_of_lstat_err {fs : Fs.T} (hw : Fs.WF fs) {q : Fs.Path} {err : Fs.Errno} (h : Fs.lstat fs q = .error err) :
    existsAt fs q = false := by
  unfold existsAt
  rw [Fs.get_none_of_walk_err hw (Fs.lstat_err_walk h)]; rfl

/-- an operation that makes no entry where none was -/
theorem upd_ex {fs fs1 : Fs.T} {p : Fs.Path} {g : Option Fs.Entry → Option Fs.Entry} (u : Fs.Upd fs p g fs1) (hg : g none = none)
    (q : Fs.Path) : existsAt fs1 q = true → existsAt fs q = true := by
  unfold existsAt
  rw [u.get]
  split
  · next hq =>
    rw [hq]
    cases Fs.get fs p with
    | none => rw [hg]; exact id
    | some _ => exact fun _ => rfl
  · exact id

theorem rename_ex {fs fs1 : Fs.T} {a b : Fs.Path} (h : Fs.rename fs a b = .ok fs1) (q : Fs.Path) (hb : ¬ b <+: q) :
    existsAt fs1 q = true → existsAt fs q = true := by
  obtain ⟨_, _, rfl | ⟨rfl, _⟩⟩ := Fs.rename_ok h
  · exact id
  · unfold existsAt
    by_cases ha : a <+: q
    · rw [Fs.get_moveTree_under_a a b fs q ha hb]; exact nofun
    · rw [Fs.get_moveTree_other a b fs q ha hb]; exact id

def DcSubD (d d' : Option (Lru.Cache (List Bytes))) : Prop :=
  ∀ c', d' = some c' → ∃ c, d = some c ∧ ∀ e ∈ c'.entries, e ∈ c.entries

theorem DcSubD.refl (d : Option (Lru.Cache (List Bytes))) : DcSubD d d := fun c' h => ⟨c', h, fun _ he => he⟩

theorem DcSubD.map {d : Option (Lru.Cache (List Bytes))} (f : Lru.Cache (List Bytes) → Lru.Cache (List Bytes))
    (hf : ∀ c, ∀ e ∈ (f c).entries, e ∈ c.entries) : DcSubD d (d.map f) := by
  intro c' hc'
  obtain ⟨c, hc, rfl⟩ := Option.map_eq_some_iff.mp hc'
  exact ⟨c, hc, hf c⟩

theorem DcSubD.invalidate (d : Option (Lru.Cache (List Bytes))) (p : Bytes) : DcSubD d (d.map fun c => Lru.invalidate c p) :=
  DcSubD.map _ fun _ _ he => List.mem_of_mem_eraseP he

theorem DcSubD.get (d : Option (Lru.Cache (List Bytes))) (now : Nat) (p : Bytes) : DcSubD d (d.map fun c => (Lru.get c now p).1) :=
  DcSubD.map _ fun c => Lru.get_sub c now p

structure Safe (s s' : St) : Prop where
  sub : DcSubD s.dc s'.dc
  ex : ∀ q, existsAt s'.fs q = true → existsAt s.fs q = true

theorem Safe.of_ex {s s' : St} (hdc : s'.dc = s.dc) (hex : ∀ q, existsAt s'.fs q = existsAt s.fs q) : Safe s s' :=
  ⟨by rw [hdc]; exact DcSubD.refl _, fun q h => (hex q).symm.trans h⟩

theorem Safe.of_eq {s s' : St} (hdc : s'.dc = s.dc) (hfs : s'.fs = s.fs) : Safe s s' :=
  .of_ex hdc fun _ => by rw [hfs]

theorem AcOnly.safe {s s' : St} (h : AcOnly s s') : Safe s s' := .of_eq h.dc h.fs

/-- Lstat shows what exists -/
theorem Unseen.safe {s s' : St} (u : Unseen s s') : Safe s s' :=
  .of_ex u.dc fun q => by simpa [existsAt, Fs.viewAt] using congrArg Option.isSome (u.view q)

theorem dcTouched_safe (s : St) (now : Nat) (p : Bytes) : Safe s (dcTouched s now p) :=
  ⟨DcSubD.get _ now p, fun _ h => h⟩

end Server
end Absnfs
