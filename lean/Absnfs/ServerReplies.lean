/-
  ServerReplies: over a coherent attribute cache (`AcCoherent`, which every history leaves: `runReqs_cinv`), what
  LOOKUP and READDIRPLUS replies say about objects is what the backend's lstat says (C04; C02 at handler level).
-/
import Absnfs.ServerCoherent
import Absnfs.ServerDir
namespace Absnfs
namespace Server

theorem getAttrOr_matches {s : St} {now : Nat} {n : Node} {d : Attrs} {i : Fs.Info}
    (hi : Fs.lstat s.fs (fsPath n.path) = .ok i) : MatchesLstat s.fs n.path (getAttrOr s now n d).2 := by
  unfold getAttrOr
  split
  · exact getAttr_matches ‹_›
  · next hg => rw [getAttr_err hg] at hi; cases hi

theorem procLookup_ok {s s' : St} {c : Ctx} {args : Bytes} {fh : Nat} {fa da : Option Rfc.Fattr}
    (h : procLookup s c args = (s', .res ⟨0, .lookupOk fh fa da⟩)) :
    ∃ hd r1 name r2 n s1 ln b, decFh' s args = some (hd, r1) ∧ decStr s r1 = some (name, r2) ∧ validateFilename name = 0 ∧
      nodeOf s hd = some n ∧ lookupPath s c.now (joinName n.path name) = (s1, .ok ln) ∧
      getAttrOr (allocate s1 ln).1 c.now n n.attrs = (s', b) ∧ fh = (allocate s1 ln).2 ∧ fa = some (toFattr ln.attrs) ∧
      da = some (toFattr b) := by
  cases h ▸ procLookup_run s c args with
  | refused hr => exact hr.not_ok.elim
  | run hfh hname hv hn hrun =>
    cases hrun with
    | notDir _ hr => exact absurd (res_inj hr).2.1 (by decide)
    | absent _ _ hr => exact (errno_not_ok hr).elim
    | ok _ hl hr =>
      obtain ⟨rfl, _, hb⟩ := res_inj hr
      cases hb
      exact ⟨_, _, _, _, _, _, _, _, hfh, hname, hv, hn, hl, rfl, rfl, rfl, rfl⟩

/-- C04, LOOKUP: object and directory attributes of an NFS3_OK reply are the backend's lstat, cache hit or not. -/
theorem procLookup_matches (s s' : St) (c : Ctx) (args : Bytes) (fh : Nat) (fa : Rfc.Fattr) (da : Option Rfc.Fattr)
    (hc : AcCoherent s) (h : procLookup s c args = (s', .res ⟨0, .lookupOk fh (some fa) da⟩)) :
    ∃ hd r1 name r2 n a, decFh' s args = some (hd, r1) ∧ decStr s r1 = some (name, r2) ∧ nodeOf s hd = some n ∧
      MatchesLstat s.fs (joinName n.path name) a ∧ fa = toFattr a ∧
      (∀ i, Fs.lstat s.fs (fsPath n.path) = .ok i → ∃ b, MatchesLstat s.fs n.path b ∧ da = some (toFattr b)) := by
  obtain ⟨hd, r1, name, r2, n, s1, ln, b, hfh, hname, _, hn, hl, hga, _, hfa, hda⟩ := procLookup_ok h
  refine ⟨hd, r1, name, r2, n, ln.attrs, hfh, hname, hn, ((lookupPath_sound hc).1 ln hl).2, Option.some.inj hfa,
    fun i hi => ⟨b, ?_, hda⟩⟩
  have hfs : (allocate s1 ln).1.fs = s.fs := (lookupPath_acOnly hl).fs
  have hm := getAttrOr_matches (now := c.now) (d := n.attrs) (hfs.symm ▸ hi)
  rw [hga] at hm
  exact hfs ▸ hm

/-- C02 at handler level: LOOKUP never invents an object and never hides one — no stale negative entry, no stale
    attribute entry can turn the answer into an error. -/
theorem procLookup_iff_backend {s : St} (hc : AcCoherent s) (c : Ctx) (args : Bytes) (hd : Nat) (r1 name r2 : Bytes)
    (n : Node) (hfh : decFh' s args = some (hd, r1)) (hname : decStr s r1 = some (name, r2))
    (hv : validateFilename name = 0) (hn : nodeOf s hd = some n) (hdir : n.attrs.kind = .dir) :
    (∃ s' fh fa da, procLookup s c args = (s', .res ⟨0, .lookupOk fh (some fa) da⟩)) ↔
    (∃ i, Fs.lstat s.fs (fsPath (joinName n.path name)) = .ok i) := by
  constructor
  · rintro ⟨s', fh, fa, da, heq⟩
    obtain ⟨_, _, _, _, _, _, e1, e2, e3, ⟨i, hi, _⟩, _⟩ := procLookup_matches s s' c args fh fa da hc heq
    cases hfh.symm.trans e1
    cases hname.symm.trans e2
    cases hn.symm.trans e3
    exact ⟨i, hi⟩
  · rintro ⟨i, hi⟩
    unfold procLookup
    simp only [hfh, hname, hv, ne_eq, not_true_eq_false, if_false, hn, hdir]
    have hne : joinName n.path name ≠ [] := by unfold joinName; split <;> simp
    cases hl : lookupPath s c.now (joinName n.path name) with
    | mk s1 r =>
      cases r with
      | error e => exact (lookupPath_not_error hc hne hi hl).elim
      | ok ln => exact ⟨_, _, _, _, rfl⟩

theorem procReaddirplus_ok_run {s s' : St} {c : Ctx} {args : Bytes} {a : Option Rfc.Fattr} {verf : Bytes}
    {ents : List Rfc.DirEntPlus} {eof : Bool} (h : procReaddirplus s c args = (s', .res ⟨0, .readdirplusOk a verf ents eof⟩)) :
    ∃ hd r1 ck r2 n s1 nodes s3 pre limit lim, decFh' s args = some (hd, r1) ∧ decU64 r1 = some (ck, r2) ∧
      nodeOf s hd = some n ∧ readDir s c.now n = (s1, .ok nodes) ∧
      getAttr (refreshEach s1 c.now nodes).1 c.now n = (s3, .ok pre) ∧
      fillDirPlus limit ck s3 0 dirListHeader 0 (refreshEach s1 c.now nodes).2 = (s', .done ents lim) ∧ eof = !lim := by
  cases h ▸ procReaddirplus_run s c args with
  | refused hr => exact hr.not_ok.elim
  | run hfh hck _ _ _ hn _ hrun =>
    cases hrun with
    | readFailed _ hr | attrFailed _ _ hr => exact (errno_not_ok hr).elim
    | tooSmall _ _ _ hr => exact absurd (res_inj hr).2.1 (by decide)
    | ok hrd hg hf hr =>
      obtain ⟨rfl, _, hb⟩ := res_inj hr
      cases hb
      exact ⟨_, _, _, _, _, _, _, _, _, _, _, hfh, hck, hn, hrd, hg, hf, rfl⟩

/-- C04, READDIRPLUS: every entry of an NFS3_OK page carries the backend's lstat of that entry's path. -/
theorem procReaddirplus_entries (s s' : St) (c : Ctx) (args : Bytes) (a : Option Rfc.Fattr) (verf : Bytes)
    (ents : List Rfc.DirEntPlus) (eof : Bool) (hc : AcCoherent s)
    (h : procReaddirplus s c args = (s', .res ⟨0, .readdirplusOk a verf ents eof⟩)) :
    ∀ e ∈ ents, ∃ n : Node, e.name = baseName n.path ∧ e.attr = some (toFattr n.attrs) ∧ e.fileid = n.attrs.fileId ∧
      MatchesLstat s.fs n.path n.attrs := by
  obtain ⟨_, _, _, _, n, s1, nodes, _, _, _, _, _, _, _, hrd, _, hf, _⟩ := procReaddirplus_ok_run h
  have hm : ∀ m ∈ (refreshEach s1 c.now nodes).2, MatchesLstat s.fs m.path m.attrs := by
    have hfs : s1.fs = s.fs := (readDir_acOnly hrd).elim fun _ ha => ha.fs
    exact hfs ▸ refreshEach_matches s1 c.now nodes (hfs.symm ▸ (readDir_sound hrd hc).2 nodes rfl)
  intro e he
  obtain ⟨m, hmem, h1, h2, h3, _⟩ := fillDirPlus_entries hf e he
  exact ⟨m, h1, h2, h3, hm m hmem⟩

end Server
end Absnfs
