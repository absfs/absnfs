/-
  Drain: drain-and-swap of the policy (nfs_handlers.go: HandleCall; options.go: UpdatePolicyOptions;
  server.go: handleConnectionLoop's rate-limit check) as a transition system.
  sync.RWMutex is modelled as documented: TryRLock fails iff a writer holds the lock or is waiting for it;
  Lock proceeds when no reader holds it. One `Step` constructor per atomic action.
-/
namespace Absnfs
namespace Drain

inductive Phase where
  | active        -- holds the read lock (admitted, goroutine running)
  | done          -- goroutine finished, read lock released
  | refused       -- got the retry-later reply at arrival
  deriving DecidableEq, Repr

structure Req where
  id : Nat
  admitted : Nat        -- policy snapshot taken at admission
  phase : Phase
  timedOut : Bool       -- the caller gave up waiting (the goroutine still owns the lock)
  limiterUsed : Nat     -- limiter consulted for this request by the connection loop
  deriving DecidableEq, Repr

inductive UpdPhase where
  | idle | waiting | holding
  deriving DecidableEq, Repr

structure St where
  policy : Nat                -- identifies the PolicyOptions value in force
  limiter : Nat               -- identifies the RateLimiter object in force
  upd : UpdPhase              -- the (single, policyMu-serialised) updater
  pendingPolicy : Nat
  reqs : List Req
  /-- every backend operation performed so far: (request id, policy it was admitted under, policy in force) -/
  backendLog : List (Nat × Nat × Nat)
  conns : List (Nat × Nat)    -- connection id ↦ limiter captured when the connection was opened
  deriving Repr

def init : St :=
  { policy := 0, limiter := 0, upd := .idle, pendingPolicy := 0, reqs := [], backendLog := [], conns := [] }

/-- the requests holding policyRWMu.RLock (the lock's reader count is their number) -/
def actives (s : St) : List Req := s.reqs.filter (·.phase == .active)

def setPhase (l : List Req) (r : Nat) (p : Phase) : List Req :=
  l.map fun x => if x.id = r then { x with phase := p } else x

def setTimedOut (l : List Req) (r : Nat) : List Req :=
  l.map fun x => if x.id = r then { x with timedOut := true } else x

/-- `perRequest` = the connection loop looks the limiter up for every request (regenerated fact);
    otherwise it uses the one captured when the connection was opened. -/
inductive Step (perRequest : Bool) : St → St → Prop
  | openConn (s : St) (c : Nat) : Step perRequest s { s with conns := (c, s.limiter) :: s.conns }
  /-- a call arrives while no writer holds or waits: admitted (TryRLock succeeds), snapshot taken -/
  | admitReq (s : St) (r c cl : Nat) (hu : s.upd = .idle) (hc : (c, cl) ∈ s.conns) (hnew : ∀ q ∈ s.reqs, q.id ≠ r) :
      Step perRequest s
        { s with reqs := ⟨r, s.policy, .active, false, if perRequest then s.limiter else cl⟩ :: s.reqs }
  /-- a call arrives mid-drain: TryRLock fails, retry-later reply, nothing else happens -/
  | refuse (s : St) (r c cl : Nat) (hu : s.upd ≠ .idle) (hc : (c, cl) ∈ s.conns) (hnew : ∀ q ∈ s.reqs, q.id ≠ r) :
      Step perRequest s
        { s with reqs := ⟨r, s.policy, .refused, false, if perRequest then s.limiter else cl⟩ :: s.reqs }
  /-- an admitted request performs a backend operation -/
  | backend (s : St) (q : Req) (hq : q ∈ s.reqs) (ha : q.phase = .active) :
      Step perRequest s { s with backendLog := (q.id, q.admitted, s.policy) :: s.backendLog }
  /-- the caller of HandleCall times out; the goroutine keeps running (and keeps the lock) -/
  | timeout (s : St) (q : Req) (hq : q ∈ s.reqs) (ha : q.phase = .active) :
      Step perRequest s { s with reqs := setTimedOut s.reqs q.id }
  /-- the request's goroutine finishes and releases the read lock -/
  | finish (s : St) (q : Req) (hq : q ∈ s.reqs) (ha : q.phase = .active) :
      Step perRequest s { s with reqs := setPhase s.reqs q.id .done }
  /-- UpdatePolicyOptions: policyMu taken, Lock() called: writer waiting -/
  | updBegin (s : St) (p : Nat) (hu : s.upd = .idle) : Step perRequest s { s with upd := .waiting, pendingPolicy := p }
  /-- Lock() returns once no reader is left -/
  | updAcquire (s : St) (hu : s.upd = .waiting) (h0 : actives s = []) : Step perRequest s { s with upd := .holding }
  /-- store the policy, replace the limiter, Unlock, return -/
  | updEnd (s : St) (l : Nat) (hu : s.upd = .holding) :
      Step perRequest s { s with policy := s.pendingPolicy, limiter := l, upd := .idle }

inductive Reach (perRequest : Bool) : St → Prop
  | init : Reach perRequest init
  | step (s s' : St) (h : Reach perRequest s) (hs : Step perRequest s s') : Reach perRequest s'

/-- The policy changes only in `updEnd`, and `holding` says that no request is active then: that keeps `current`,
    from which `log` follows. -/
structure Inv (s : St) : Prop where
  current : ∀ q ∈ s.reqs, q.phase = .active → q.admitted = s.policy
  holding : s.upd = .holding → actives s = []
  log : ∀ e ∈ s.backendLog, e.2.1 = e.2.2

theorem inv_init : Inv init := by
  constructor <;> simp [init, actives]

theorem mem_actives {s : St} {q : Req} : q ∈ actives s ↔ q ∈ s.reqs ∧ q.phase = .active := by
  simp [actives]

theorem mem_setTimedOut {l : List Req} {r : Nat} {x : Req} (h : x ∈ setTimedOut l r) :
    ∃ y ∈ l, x.id = y.id ∧ x.admitted = y.admitted ∧ x.phase = y.phase := by
  obtain ⟨y, hy, rfl⟩ := List.mem_map.mp h
  exact ⟨y, hy, by split <;> exact ⟨rfl, rfl, rfl⟩⟩

theorem mem_setPhase {l : List Req} {r : Nat} {p : Phase} {x : Req} (h : x ∈ setPhase l r p) :
    ∃ y ∈ l, x.id = y.id ∧ x.admitted = y.admitted ∧ (x.phase = y.phase ∨ x.phase = p) := by
  obtain ⟨y, hy, rfl⟩ := List.mem_map.mp h
  exact ⟨y, hy, by split <;> simp⟩

theorem actives_map_le (g : Req → Req) (l : List Req) (hg : ∀ y, (g y).phase = .active → y.phase = .active) :
    ((l.map g).filter (·.phase == .active)).length ≤ (l.filter (·.phase == .active)).length := by
  rw [← List.countP_eq_length_filter, ← List.countP_eq_length_filter, List.countP_map]
  exact List.countP_mono_left fun y _ h => by simpa using hg y (by simpa using h)

theorem inv_step (b : Bool) (s s' : St) (hI : Inv s) (hs : Step b s s') : Inv s' := by
  have holder {q : Req} (hq : q ∈ s.reqs) (ha : q.phase = .active) : actives s ≠ [] :=
    List.ne_nil_of_mem (mem_actives.mpr ⟨hq, ha⟩)
  cases hs with
  | openConn c => exact ⟨hI.current, hI.holding, hI.log⟩
  | admitReq r c cl hu hc hnew =>
    exact ⟨List.forall_mem_cons.mpr ⟨fun _ => rfl, hI.current⟩, (fun hh => nomatch hu.symm.trans hh), hI.log⟩
  | refuse r c cl hu hc hnew =>
    exact ⟨List.forall_mem_cons.mpr ⟨(fun ha => nomatch ha), hI.current⟩, hI.holding, hI.log⟩
  | backend q hq ha =>
    exact ⟨hI.current, hI.holding, List.forall_mem_cons.mpr ⟨hI.current q hq ha, hI.log⟩⟩
  | timeout q hq ha =>
    refine ⟨fun x hx hxa => ?_, fun hh => absurd (hI.holding hh) (holder hq ha), hI.log⟩
    obtain ⟨y, hy, _, h1, h2⟩ := mem_setTimedOut hx
    exact h1 ▸ hI.current y hy (h2 ▸ hxa)
  | finish q hq ha =>
    refine ⟨fun x hx hxa => ?_, fun hh => absurd (hI.holding hh) (holder hq ha), hI.log⟩
    obtain ⟨y, hy, _, h1, h2 | h2⟩ := mem_setPhase hx
    · exact h1 ▸ hI.current y hy (h2 ▸ hxa)
    · exact nomatch h2.symm.trans hxa
  | updBegin p hu => exact ⟨hI.current, (fun hh => nomatch hh), hI.log⟩
  | updAcquire hu h0 => exact ⟨hI.current, fun _ => h0, hI.log⟩
  | updEnd l hu =>
    exact ⟨fun q hq ha => absurd (hI.holding hu) (holder hq ha), (fun hh => nomatch hh), hI.log⟩

theorem inv_reach (b : Bool) (s : St) (h : Reach b s) : Inv s := by
  induction h with
  | init => exact inv_init
  | step s s' _ hs ih => exact inv_step b s s' ih hs

theorem Step.arrival {b : Bool} {s s' : St} (h : Step b s s') {q : Req} (hq : q ∈ s'.reqs)
    (hnew : ∀ x ∈ s.reqs, x.id ≠ q.id) :
    q.admitted = s.policy ∧ q.phase = (if s.upd = .idle then .active else .refused) ∧
      (b = true → q.limiterUsed = s.limiter) := by
  have old : q ∉ s.reqs := fun hq => hnew q hq rfl
  cases h with
  | admitReq r c cl hu _ _ =>
    obtain rfl := (List.mem_cons.mp hq).resolve_right old
    exact ⟨rfl, (if_pos hu).symm, fun hb => if_pos hb⟩
  | refuse r c cl hu _ _ =>
    obtain rfl := (List.mem_cons.mp hq).resolve_right old
    exact ⟨rfl, (if_neg hu).symm, fun hb => if_pos hb⟩
  | timeout x _ _ =>
    obtain ⟨y, hy, hid, _⟩ := mem_setTimedOut hq
    exact absurd hid.symm (hnew y hy)
  | finish x _ _ =>
    obtain ⟨y, hy, hid, _⟩ := mem_setPhase hq
    exact absurd hid.symm (hnew y hy)
  | _ => exact absurd hq old

theorem Step.actives_length_le {b : Bool} {s s' : St} (h : Step b s s') (hu : s.upd ≠ .idle) :
    (actives s').length ≤ (actives s).length := by
  cases h with
  | admitReq r c cl hu' _ _ => exact absurd hu' hu
  | timeout x _ _ => exact actives_map_le _ _ fun y => by split <;> exact id
  | finish x _ _ => exact actives_map_le _ _ fun y => by split <;> simp
  | _ => exact Nat.le_refl _

end Drain
end Absnfs
