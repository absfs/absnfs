/-
  C01's "byte-array model of the file", as an abstract specification, and the refinement: the backend model's
  byte strings under any sequence of WriteAt / Truncate are, position by position, what the specification says —
  for every history, with no bound on its length. READ's answer (`slice`) is then a function of the
  specification alone, and two byte strings with the same abstraction are equal.
-/
import Absnfs.BytesComm

namespace Absnfs.Fs

structure Spec where
  size : Nat
  byte : Nat → UInt8

def absBytes (d : Bytes) : Spec := ⟨d.length, fun i => d.getD i 0⟩

inductive FileOp where
  | write (off : Nat) (w : Bytes)
  | trunc (n : Nat)

def Spec.write (f : Spec) (off : Nat) (w : Bytes) : Spec :=
  if w = [] then f
  else ⟨max f.size (off + w.length), fun i => if off ≤ i ∧ i < off + w.length then w.getD (i - off) 0 else f.byte i⟩

def Spec.trunc (f : Spec) (n : Nat) : Spec := ⟨n, fun i => if i < n then f.byte i else 0⟩

def Spec.step (f : Spec) : FileOp → Spec
  | .write off w => f.write off w
  | .trunc n => f.trunc n

def applyFileOp (d : Bytes) : FileOp → Bytes
  | .write off w => writeBytes d off w
  | .trunc n => truncBytes d n

theorem absBytes_write (d : Bytes) (off : Nat) (w : Bytes) : absBytes (writeBytes d off w) = (absBytes d).write off w := by
  by_cases hw : w = []
  · simp only [writeBytes, Spec.write, hw, if_true]
  · simp only [Spec.write, hw, if_false, absBytes, writeBytes_length _ _ _ hw]
    congr 1
    funext i
    exact writeBytes_getD d off w i

theorem absBytes_trunc (d : Bytes) (n : Nat) : absBytes (truncBytes d n) = (absBytes d).trunc n := by
  simp only [Spec.trunc, absBytes, truncBytes_length]
  congr 1
  funext i
  exact truncBytes_getD d n i

theorem absBytes_step (d : Bytes) (op : FileOp) : absBytes (applyFileOp d op) = (absBytes d).step op := by
  cases op with
  | write off w => exact absBytes_write d off w
  | trunc n => exact absBytes_trunc d n

theorem absBytes_run (d : Bytes) (ops : List FileOp) :
    absBytes (ops.foldl applyFileOp d) = ops.foldl Spec.step (absBytes d) := by
  induction ops generalizing d with
  | nil => rfl
  | cons op ops ih => simp only [List.foldl_cons]; rw [ih, absBytes_step]

theorem absBytes_injective {a b : Bytes} (h : absBytes a = absBytes b) : a = b := by
  have hs : a.length = b.length := congrArg Spec.size h
  have hb : (fun i => a.getD i 0) = (fun i => b.getD i 0) := congrArg Spec.byte h
  exact bytes_ext_getD hs (fun i _ => congrFun hb i)

theorem absBytes_zero_beyond (d : Bytes) (i : Nat) (h : (absBytes d).size ≤ i) : (absBytes d).byte i = 0 := by
  simp only [absBytes] at *
  rw [List.getD_eq_getElem?_getD, List.getElem?_eq_none h]; rfl

theorem slice_from_spec (d : Bytes) (off cnt : Nat) :
    (slice d off cnt).length = min cnt ((absBytes d).size - off) ∧
    ∀ i, i < cnt → (slice d off cnt).getD i 0 = (absBytes d).byte (off + i) :=
  ⟨slice_length d off cnt, fun i hi => slice_getD d off cnt i hi⟩

theorem hole_reads_zero (d : Bytes) (off : Nat) (w : Bytes) (hw : w ≠ []) (i : Nat) (h1 : d.length ≤ i) (h2 : i < off) :
    (writeBytes d off w).getD i 0 = 0 := by
  rw [writeBytes_getD, if_neg (fun h => Nat.not_le.2 h2 h.1)]
  exact absBytes_zero_beyond d i h1

/-- the size test of the server (C25) on one operation: where the operation would end -/
def FileOp.endsAt : FileOp → Nat
  | .write off w => off + w.length
  | .trunc n => n

def guardedOp (lim : Nat) (d : Bytes) (op : FileOp) : Bytes := if op.endsAt > lim then d else applyFileOp d op

theorem applyFileOp_length_le (d : Bytes) (op : FileOp) (lim : Nat) (hd : d.length ≤ lim) (ho : op.endsAt ≤ lim) :
    (applyFileOp d op).length ≤ lim := by
  cases op with
  | write off w =>
    by_cases hw : w = []
    · rw [applyFileOp, writeBytes, if_pos hw]; exact hd
    · rw [applyFileOp, writeBytes_length _ _ _ hw]; exact Nat.max_le.2 ⟨hd, ho⟩
  | trunc n => rw [applyFileOp, truncBytes_length]; exact ho

theorem guarded_run_length_le (lim : Nat) (d : Bytes) (ops : List FileOp) (hd : d.length ≤ lim) :
    (ops.foldl (guardedOp lim) d).length ≤ lim := by
  induction ops generalizing d with
  | nil => exact hd
  | cons op ops ih =>
    rw [List.foldl_cons]
    apply ih
    unfold guardedOp
    split
    · exact hd
    · exact applyFileOp_length_le d op lim hd (Nat.not_lt.1 ‹_›)

theorem guarded_run_eq_unguarded (lim : Nat) (d : Bytes) (ops : List FileOp) (h : ∀ op ∈ ops, op.endsAt ≤ lim) :
    ops.foldl (guardedOp lim) d = ops.foldl applyFileOp d := by
  induction ops generalizing d with
  | nil => rfl
  | cons op ops ih =>
    rw [List.forall_mem_cons] at h
    rw [List.foldl_cons, List.foldl_cons, guardedOp, if_neg (Nat.not_lt.2 h.1), ih _ h.2]

end Absnfs.Fs
