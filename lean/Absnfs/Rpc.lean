/-
  Rpc: ONC RPC call header / reply / AUTH_SYS body.
  Models rpc_types.go: DecodeRPCCall, EncodeRPCReply, ParseAuthSysCredential (+ byteReader).
-/
import Absnfs.Xdr
namespace Absnfs

structure OpaqueAuth where
  flavor : Nat
  body : Bytes
  deriving Repr, DecidableEq

structure RpcCall where
  xid : Nat
  rpcVers : Nat
  prog : Nat
  vers : Nat
  proc : Nat
  cred : OpaqueAuth
  verf : OpaqueAuth
  deriving Repr, DecidableEq

def encAuth (a : OpaqueAuth) : Bytes := encU32 a.flavor ++ encOpaque a.body

def decAuth (maxAuth : Nat) (bs : Bytes) : Option (OpaqueAuth × Bytes) :=
  match decU32 bs with
  | none => none
  | some (fl, r) =>
    match decOpaque maxAuth r with
    | none => none
    | some (body, r') => some ({ flavor := fl, body := body }, r')

/-- The bytes a conformant client sends for a call header (msg_type = CALL = 0). -/
def encCall (c : RpcCall) : Bytes :=
  encU32 c.xid ++ encU32 0 ++ encU32 c.rpcVers ++ encU32 c.prog ++ encU32 c.vers ++ encU32 c.proc ++
  encAuth c.cred ++ encAuth c.verf

/-- DecodeRPCCall. Note: the RPC version word is read but not checked (as in the code). -/
def decCall (maxAuth : Nat) (bs : Bytes) : Option (RpcCall × Bytes) :=
  match decU32 bs with
  | none => none
  | some (xid, r1) =>
  match decU32 r1 with
  | none => none
  | some (mt, r2) =>
  if mt ≠ 0 then none else
  match decU32 r2 with
  | none => none
  | some (rv, r3) =>
  match decU32 r3 with
  | none => none
  | some (prog, r4) =>
  match decU32 r4 with
  | none => none
  | some (vers, r5) =>
  match decU32 r5 with
  | none => none
  | some (proc, r6) =>
  match decAuth maxAuth r6 with
  | none => none
  | some (cred, r7) =>
  match decAuth maxAuth r7 with
  | none => none
  | some (verf, r8) =>
    some ({ xid := xid, rpcVers := rv, prog := prog, vers := vers, proc := proc,
            cred := cred, verf := verf }, r8)

def OpaqueAuth.WF (maxAuth : Nat) (a : OpaqueAuth) : Prop :=
  a.flavor < 4294967296 ∧ a.body.length ≤ maxAuth

def RpcCall.WF (maxAuth : Nat) (c : RpcCall) : Prop :=
  c.xid < 4294967296 ∧ c.rpcVers < 4294967296 ∧ c.prog < 4294967296 ∧ c.vers < 4294967296 ∧
  c.proc < 4294967296 ∧ c.cred.WF maxAuth ∧ c.verf.WF maxAuth

theorem decAuth_encAuth (maxAuth : Nat) (a : OpaqueAuth) (rest : Bytes) (h : a.WF maxAuth)
    (hm : maxAuth < 4294967296) :
    decAuth maxAuth (encAuth a ++ rest) = some (a, rest) := by
  simp [decAuth, encAuth, decU32_encU32 _ h.1, decOpaque_encOpaque _ _ _ h.2 (Nat.lt_of_le_of_lt h.2 hm)]

theorem decCall_encCall (maxAuth : Nat) (c : RpcCall) (rest : Bytes) (h : c.WF maxAuth)
    (hm : maxAuth < 4294967296) :
    decCall maxAuth (encCall c ++ rest) = some (c, rest) := by
  obtain ⟨h1, h2, h3, h4, h5, h6, h7⟩ := h
  simp [decCall, encCall, decU32_encU32, decAuth_encAuth, *]

/-- Allocation sizes performed while decoding a call header. -/
def decCallAllocs (maxAuth : Nat) (bs : Bytes) : List Nat :=
  -- skip 6 header words + cred flavor
  match decU32 (bs.drop 24) with
  | none => []
  | some (_, r) => decOpaqueAllocs maxAuth r ++
    (match decOpaque maxAuth r with
     | none => []
     | some (_, r') =>
       match decU32 r' with
       | none => []
       | some (_, r'') => decOpaqueAllocs maxAuth r'')

theorem decCallAllocs_bounded (maxAuth : Nat) (bs : Bytes) :
    ∀ a ∈ decCallAllocs maxAuth bs, a ≤ maxAuth ∨ a < 4 := by
  intro a ha
  unfold decCallAllocs at ha
  split at ha; · cases ha
  rw [List.mem_append] at ha
  rcases ha with ha | ha
  · exact decOpaqueAllocs_bounded _ _ a ha
  · split at ha; · cases ha
    split at ha; · cases ha
    exact decOpaqueAllocs_bounded _ _ a ha

/-! Reply encoding (EncodeRPCReply). -/

structure RpcReply where
  xid : Nat
  status : Nat          -- reply_stat: 0 = MSG_ACCEPTED, anything else takes the denied branch
  acceptStatus : Nat    -- accept_stat
  verf : OpaqueAuth
  data : Bytes          -- pre-encoded procedure results (only written when acceptStatus = SUCCESS)
  deriving Repr, DecidableEq

def encReply (r : RpcReply) : Bytes :=
  encU32 r.xid ++ encU32 1 ++ encU32 r.status ++
  (if r.status = 0 then
     encU32 r.verf.flavor ++ encOpaque r.verf.body ++ encU32 r.acceptStatus ++
     (if r.acceptStatus = 2 then encU32 3 ++ encU32 3
      else if r.acceptStatus = 0 then r.data else [])
   else encU32 1 ++ encU32 1)

/-- RFC 1831 `rpc_msg` reply body, typed. -/
inductive Rfc1831Reply where
  | success (xid : Nat) (verf : OpaqueAuth) (results : Bytes)
  | progUnavail (xid : Nat) (verf : OpaqueAuth)
  | progMismatch (xid : Nat) (verf : OpaqueAuth) (low high : Nat)
  | procUnavail (xid : Nat) (verf : OpaqueAuth)
  | garbageArgs (xid : Nat) (verf : OpaqueAuth)
  | systemErr (xid : Nat) (verf : OpaqueAuth)
  | rpcMismatch (xid : Nat) (low high : Nat)
  | authError (xid : Nat) (stat : Nat)
  deriving Repr, DecidableEq

/-- Exact RFC 1831 reply decoder: returns the typed reply; for `success` the remaining bytes are the
    procedure results, for every other arm there must be no trailing bytes. -/
def decReply (maxAuth : Nat) (bs : Bytes) : Option Rfc1831Reply :=
  match decU32 bs with
  | none => none
  | some (xid, r1) =>
  match decU32 r1 with
  | none => none
  | some (mt, r2) =>
  if mt ≠ 1 then none else
  match decU32 r2 with
  | none => none
  | some (rs, r3) =>
  if rs = 0 then
    match decAuth maxAuth r3 with
    | none => none
    | some (verf, r4) =>
    match decU32 r4 with
    | none => none
    | some (as, r5) =>
      if as = 0 then some (.success xid verf r5)
      else if as = 2 then
        match decU32 r5 with
        | none => none
        | some (lo, r6) =>
        match decU32 r6 with
        | none => none
        | some (hi, r7) => if r7 = [] then some (.progMismatch xid verf lo hi) else none
      else if r5 ≠ [] then none
      else if as = 1 then some (.progUnavail xid verf)
      else if as = 3 then some (.procUnavail xid verf)
      else if as = 4 then some (.garbageArgs xid verf)
      else if as = 5 then some (.systemErr xid verf)
      else none
  else if rs = 1 then
    match decU32 r3 with
    | none => none
    | some (rj, r4) =>
      if rj = 0 then
        match decU32 r4 with
        | none => none
        | some (lo, r5) =>
        match decU32 r5 with
        | none => none
        | some (hi, r6) => if r6 = [] then some (.rpcMismatch xid lo hi) else none
      else if rj = 1 then
        match decU32 r4 with
        | none => none
        | some (st, r5) => if r5 = [] ∧ st ≤ 13 then some (.authError xid st) else none
      else none
  else none

/-- What the server's reply means under RFC 1831, as a function of the reply value. -/
def RpcReply.view (r : RpcReply) : Option Rfc1831Reply :=
  if r.status = 0 then
    if r.acceptStatus = 0 then some (.success r.xid r.verf r.data)
    else if r.acceptStatus = 1 then some (.progUnavail r.xid r.verf)
    else if r.acceptStatus = 2 then some (.progMismatch r.xid r.verf 3 3)
    else if r.acceptStatus = 3 then some (.procUnavail r.xid r.verf)
    else if r.acceptStatus = 4 then some (.garbageArgs r.xid r.verf)
    else if r.acceptStatus = 5 then some (.systemErr r.xid r.verf)
    else none
  else if r.status = 1 then some (.authError r.xid 1)
  else none

def RpcReply.WF (maxAuth : Nat) (r : RpcReply) : Prop :=
  r.xid < 4294967296 ∧ r.status ≤ 1 ∧ r.acceptStatus ≤ 5 ∧ r.verf.WF maxAuth

theorem decReply_encReply (maxAuth : Nat) (r : RpcReply) (h : r.WF maxAuth) (hm : maxAuth < 4294967296) :
    decReply maxAuth (encReply r) = r.view := by
  obtain ⟨xid, status, as, verf, data⟩ := r
  obtain ⟨hx, hs, ha, hf, hb⟩ := h
  simp only at hx hs ha
  have has : as < 4294967296 := Nat.lt_of_le_of_lt ha (by decide)
  have hb' := Nat.lt_of_le_of_lt hb hm
  obtain rfl | rfl := Nat.le_one_iff_eq_zero_or_eq_one.1 hs
  · -- accepted: header, verifier and accept_stat are read back in one pass; what is left depends on accept_stat
    simp only [decReply, encReply, RpcReply.view, decAuth, List.append_assoc, decU32_encU32, decOpaque_encOpaque, hx, hf,
      hb, hb', has, Nat.reduceLT, ne_eq, not_true, if_false, if_true]
    obtain rfl | rfl | rfl | rfl | rfl | rfl : as = 0 ∨ as = 1 ∨ as = 2 ∨ as = 3 ∨ as = 4 ∨ as = 5 := by omega
    all_goals simp [decU32_encU32, decU32_encU32']
  · simp [decReply, encReply, RpcReply.view, decU32_encU32 _ hx, decU32_encU32, decU32_encU32']

/-! AUTH_SYS credential body (ParseAuthSysCredential over byteReader). -/

structure AuthSys where
  stamp : Nat
  machine : Bytes
  uid : Nat
  gid : Nat
  gids : List Nat
  deriving Repr, DecidableEq

def encU32s (l : List Nat) : Bytes := l.flatMap encU32

def decU32s : Nat → Bytes → Option (List Nat × Bytes)
  | 0, bs => some ([], bs)
  | n + 1, bs =>
    match decU32 bs with
    | none => none
    | some (v, r) =>
      match decU32s n r with
      | none => none
      | some (vs, r') => some (v :: vs, r')

def encAuthSys (a : AuthSys) : Bytes :=
  encU32 a.stamp ++ encOpaque a.machine ++ encU32 a.uid ++ encU32 a.gid ++
  encU32 a.gids.length ++ encU32s a.gids

/-- byteReader.readString: bounded length, padded length must be available; no NUL check. -/
def readStringBR (maxStr : Nat) (bs : Bytes) : Option (Bytes × Bytes) :=
  match decU32 bs with
  | none => none
  | some (len, r) =>
    if len > maxStr then none
    else
      let padded := (len + 3) / 4 * 4
      if padded > r.length then none
      else some (r.take len, r.drop padded)

def parseAuthSys (maxStr maxGids : Nat) (body : Bytes) : Option AuthSys :=
  if body = [] then none else
  match decU32 body with
  | none => none
  | some (stamp, r1) =>
  match readStringBR maxStr r1 with
  | none => none
  | some (name, r2) =>
  match decU32 r2 with
  | none => none
  | some (uid, r3) =>
  match decU32 r3 with
  | none => none
  | some (gid, r4) =>
  match decU32 r4 with
  | none => none
  | some (cnt, r5) =>
  if cnt > maxGids then none else
  match decU32s cnt r5 with
  | none => none
  | some (gids, _) =>
    some { stamp := stamp, machine := name, uid := uid, gid := gid, gids := gids }

def AuthSys.WF (maxStr maxGids : Nat) (a : AuthSys) : Prop :=
  a.stamp < 4294967296 ∧ a.machine.length ≤ maxStr ∧ a.uid < 4294967296 ∧ a.gid < 4294967296 ∧
  a.gids.length ≤ maxGids ∧ ∀ g ∈ a.gids, g < 4294967296

theorem decU32s_encU32s (l : List Nat) (rest : Bytes) (h : ∀ g ∈ l, g < 4294967296) :
    decU32s l.length (encU32s l ++ rest) = some (l, rest) := by
  induction l with
  | nil => rfl
  | cons g gs ih =>
    rw [List.forall_mem_cons] at h
    have ih := ih h.2
    simp only [encU32s] at ih
    simp [decU32s, encU32s, decU32_encU32 _ h.1, ih]

theorem readStringBR_encOpaque (maxStr : Nat) (s rest : Bytes) (hl : s.length ≤ maxStr)
    (h32 : s.length < 4294967296) :
    readStringBR maxStr (encOpaque s ++ rest) = some (s, rest) := by
  have : s.length + pad4 s.length = (s ++ zeros (pad4 s.length)).length := by simp
  simp only [readStringBR, encOpaque, List.append_assoc, decU32_encU32 _ h32, pad4_round]
  rw [if_neg (by omega), if_neg (by simp), List.take_left, this, ← List.append_assoc, List.drop_left]

theorem parseAuthSys_fixed_part (maxStr maxGids : Nat) (stamp uid gid cnt : Nat) (machine tail : Bytes)
    (h1 : stamp < 4294967296) (h2 : machine.length ≤ maxStr) (h3 : uid < 4294967296) (h4 : gid < 4294967296)
    (hc32 : cnt < 4294967296) (hm : maxStr < 4294967296) :
    parseAuthSys maxStr maxGids
      (encU32 stamp ++ encOpaque machine ++ encU32 uid ++ encU32 gid ++ encU32 cnt ++ tail) =
    if cnt > maxGids then none
    else (decU32s cnt tail).map fun p => { stamp := stamp, machine := machine, uid := uid, gid := gid, gids := p.1 } := by
  rw [parseAuthSys, if_neg fun hc => by simpa using congrArg List.length hc]
  simp only [List.append_assoc, decU32_encU32, readStringBR_encOpaque _ _ _ h2 (Nat.lt_of_le_of_lt h2 hm), *]
  cases decU32s cnt tail <;> rfl

theorem parseAuthSys_encAuthSys (maxStr maxGids : Nat) (a : AuthSys) (h : a.WF maxStr maxGids)
    (hm : maxStr < 4294967296) (hg : maxGids < 4294967296) :
    parseAuthSys maxStr maxGids (encAuthSys a) = some a := by
  obtain ⟨h1, h2, h3, h4, h5, h6⟩ := h
  have hgids := decU32s_encU32s a.gids [] h6
  rw [List.append_nil] at hgids
  rw [encAuthSys, parseAuthSys_fixed_part _ _ _ _ _ _ _ _ h1 h2 h3 h4 (Nat.lt_of_le_of_lt h5 hg) hm,
    if_neg (Nat.not_lt.2 h5), hgids]
  rfl

end Absnfs
