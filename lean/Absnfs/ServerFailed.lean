/-
  ServerFailed: C02, "A failed request leaves the tree unchanged", for REMOVE, RMDIR and RENAME (`procX_failed`; they
  need a well-formed backend only), and what the object-making procedures share with them (ServerMade): the only place
  where a handler could report an error after its backend call succeeded is a fetch that follows it, and the GetAttr of
  the directory cannot fail on a well-formed backend, because the operation does not change what Lstat shows at the
  directory (`lstat_dir_kept`, `AttrThen.status`; `getAttr_not_error` is in ServerFrame).
-/
import Absnfs.ServerInvProcs
namespace Absnfs
namespace Server

theorem removeOp_err_fs {s1 : St} {n : Node} {name : Bytes} {e : Fs.Errno} (_ : removeOp s1 n name = .error e) : True := trivial

variable {s s' s1 s2 s3 t : St} {now st : Nat} {n d1 d2 : Node} {d name n1 n2 : Bytes} {pre pre1 pre2 : Attrs}
  {fail body : Rfc.Body} {b : Attrs → Rfc.Body} {fs fs1 : Fs.T}

theorem lstat_ok_transfer (hw1 : Fs.WF fs1) {q : Fs.Path} (h : ∃ i, Fs.lstat fs q = .ok i)
    (hv : Fs.viewAt fs1 q = Fs.viewAt fs q) : ∃ i, Fs.lstat fs1 q = .ok i :=
  let ⟨_, h⟩ := h
  let ⟨i', hi', _⟩ := Fs.lstat_of_view hw1 (hv ▸ Fs.lstat_ok_view h)
  ⟨i', hi'⟩

theorem lstat_dir_kept {g : Option Fs.Entry → Option Fs.Entry} (hn : NoSep name) (hw : Fs.WF fs)
    (hu : Fs.Upd fs (fsPath (joinName d name)) g fs1) (hi : ∃ i, Fs.lstat fs (fsPath d) = .ok i) :
    ∃ i, Fs.lstat fs1 (fsPath d) = .ok i :=
  lstat_ok_transfer (hu.wf hw) hi (hu.ne _ (fsPath_child_ne d name hn))

theorem AttrThen.status (ht : AttrThen s now n fail (fun post => res 0 (b post)) (s', .res ⟨st, body⟩))
    (hi : ∃ i, Fs.lstat s.fs (fsPath n.path) = .ok i) : st = 0 := by
  cases ht with
  | failed hg _ => exact (getAttr_not_error hi hg).elim
  | ok _ hr => exact (res_inj hr).2.1

/-! ### REMOVE, RMDIR, RENAME: a well-formed backend is all they need (Props/C02 states them under `CInv`, as it
    must for CREATE, MKDIR and SYMLINK) -/

/-- REMOVE and RMDIR after their backend call; `t` is the state their invalidations leave -/
theorem removed_status (hw : Fs.WF s.fs) (hns : NoSep name) (hg : getAttr s now n = (s1, .ok pre))
    (hrm : Fs.remove s1.fs (fsPath (joinName n.path name)) = .ok fs1) (hfs : t.fs = fs1)
    (ht : AttrThen t now n fail (fun post => res 0 (b post)) (s', .res ⟨st, body⟩)) : st = 0 :=
  ht.status (hfs ▸ lstat_dir_kept hns ((getAttr_acOnly hg).fs ▸ hw) (Fs.remove_upd hrm) (getAttr_ok_lstat hg))

theorem procRemove_failed (s s' : St) (c : Ctx) (args : Bytes) (st : Nat) (body : Rfc.Body) (hw : Fs.WF s.fs)
    (heq : procRemove s c args = (s', .res ⟨st, body⟩)) (hst : st ≠ 0) : s'.fs = s.fs := by
  cases heq ▸ procRemove_run s c args with
  | refused hr => exact congrArg St.fs hr.fst
  | run _ _ _ hv _ _ hrun =>
    cases hrun with
    | attrFailed hg hr => cases hr; exact (getAttr_acOnly hg).fs
    | opFailed hg _ hr => cases hr; exact (getAttrOr_fs ..).trans (getAttr_acOnly hg).fs
    | removed hg hop ht =>
      obtain ⟨fs1, hrm, rfl⟩ := removeOp_ok hop
      exact absurd (removed_status hw (noSep_of_valid _ hv) hg hrm rfl ht) hst

theorem procRmdir_failed (s s' : St) (c : Ctx) (args : Bytes) (st : Nat) (body : Rfc.Body) (hw : Fs.WF s.fs)
    (heq : procRmdir s c args = (s', .res ⟨st, body⟩)) (hst : st ≠ 0) : s'.fs = s.fs := by
  cases heq ▸ procRmdir_run s c args with
  | refused hr => exact congrArg St.fs hr.fst
  | run _ _ _ hv _ _ hrun =>
    cases hrun with
    | attrFailed hg hr | absent hg _ hr | notDir hg _ _ hr => cases hr; exact (getAttr_acOnly hg).fs
    | opFailed hg _ _ _ hr => cases hr; exact (getAttrOr_fs ..).trans (getAttr_acOnly hg).fs
    | removed hg _ _ hop ht => exact absurd (removed_status hw (noSep_of_valid _ hv) hg hop rfl ht) hst

theorem renameOp_outcome (hw : Fs.WF s.fs) (hn1 : NoSep n1) (hn2 : NoSep n2) (hg1 : getAttr s now d1 = (s1, .ok pre1))
    (hg2 : getAttr s1 now d2 = (s2, .ok pre2)) (hop : renameOp s2 d1 n1 d2 n2 = .ok s3) :
    (∃ i, Fs.lstat s3.fs (fsPath d1.path) = .ok i) ∧ ∃ i, Fs.lstat s3.fs (fsPath d2.path) = .ok i := by
  obtain ⟨fs1, hrn, rfl⟩ := renameOp_ok hop
  have hfs2 := (getAttr_acOnly hg2).fs
  have hw2 : Fs.WF s2.fs := hfs2 ▸ (getAttr_acOnly hg1).fs ▸ hw
  rw [fsPath_joinName _ _ hn1, fsPath_joinName _ _ hn2] at hrn
  obtain ⟨hw1, -⟩ := Fs.rename_frame hrn hw2
  obtain ⟨v1, v2⟩ := Fs.rename_parents hrn hw2
  exact ⟨lstat_ok_transfer hw1 (hfs2 ▸ getAttr_ok_lstat hg1) v1, lstat_ok_transfer hw1 (getAttr_ok_lstat hg2) v2⟩

theorem procRename_failed (s s' : St) (c : Ctx) (args : Bytes) (st : Nat) (body : Rfc.Body) (hw : Fs.WF s.fs)
    (heq : procRename s c args = (s', .res ⟨st, body⟩)) (hst : st ≠ 0) : s'.fs = s.fs := by
  cases heq ▸ procRename_run s c args with
  | refused hr => exact congrArg St.fs hr.fst
  | run _ _ _ hv1 _ _ hv2 _ _ hrun =>
    have hns1 := noSep_of_valid _ hv1
    have hns2 := noSep_of_valid _ hv2
    cases hrun with
    | attr1Failed hg1 hr => cases hr; exact (getAttr_acOnly hg1).fs
    | attr2Failed hg1 hg2 hr => cases hr; exact ((getAttr_acOnly hg1).trans (getAttr_acOnly hg2)).fs
    | opFailed hg1 hg2 _ hr =>
      cases hr
      exact (getAttrOr_fs ..).trans ((getAttrOr_fs ..).trans ((getAttr_acOnly hg1).trans (getAttr_acOnly hg2)).fs)
    | post1Failed hg1 hg2 hop hp1 _ => exact (getAttr_not_error (renameOp_outcome hw hns1 hns2 hg1 hg2 hop).1 hp1).elim
    | post2Failed hg1 hg2 hop hp1 hp2 _ =>
      exact (getAttr_not_error ((getAttr_acOnly hp1).fs ▸ (renameOp_outcome hw hns1 hns2 hg1 hg2 hop).2) hp2).elim
    | ok _ _ _ _ _ hr => exact absurd (res_inj hr).2.1 hst

end Server
end Absnfs
