/-
  HandlesInv: the inductive invariant of the handle table and its preservation by every operation.
-/
import Absnfs.Handles
namespace Absnfs
namespace Handles

structure Inv (dm : Nat) (s : St) : Prop where
  idsNodup : (ids s.live).Nodup
  pathsNodup : (paths s.live).Nodup
  noEmpty : ([] : Bytes) ∉ paths s.live
  liveLt : ∀ i ∈ ids s.live, i < s.next
  freeLt : ∀ f ∈ s.free, f < s.next
  freeNodup : s.free.Nodup
  disjoint : ∀ f ∈ s.free, f ∉ ids s.live
  bounded : s.live.length ≤ effMax dm s.maxRaw

/-- `Inv` without the bound: what also holds between the insertion and the eviction inside `alloc`. The ids are spoken of
    as one pool, `ids s.live ++ s.free`: release, eviction and the reuse of a freed id only permute it, a fresh id puts
    `next` in front of it. -/
structure Wf (s : St) : Prop where
  pool : (ids s.live ++ s.free).Nodup
  lt : ∀ i ∈ ids s.live ++ s.free, i < s.next
  pathsNodup : (paths s.live).Nodup
  noEmpty : ([] : Bytes) ∉ paths s.live

theorem Inv.wf {dm : Nat} {s : St} (h : Inv dm s) : Wf s :=
  ⟨List.nodup_append.mpr ⟨h.idsNodup, h.freeNodup, fun _ ha b hb hab => h.disjoint b hb (hab ▸ ha)⟩,
    fun i hi => (List.mem_append.mp hi).elim (h.liveLt i) (h.freeLt i), h.pathsNodup, h.noEmpty⟩

theorem Wf.inv {dm : Nat} {s : St} (h : Wf s) (hb : s.live.length ≤ effMax dm s.maxRaw) : Inv dm s :=
  have ⟨h1, h2, h3⟩ := List.nodup_append.mp h.pool
  ⟨h1, h.pathsNodup, h.noEmpty, fun i hi => h.lt i (List.mem_append_left _ hi), fun f hf => h.lt f (List.mem_append_right _ hf),
    h2, fun f hf hin => h3 f hin f hf rfl, hb⟩

theorem effMax_pos (dm : Nat) (raw : Int) (h : 0 < dm) : 0 < effMax dm raw := by
  unfold effMax; split
  · exact h
  · omega

theorem evictCount_pos (m d : Nat) : 0 < evictCount m d := by
  unfold evictCount; split <;> omega

theorem inv_of_empty {dm : Nat} {s : St} (hl : s.live = []) (hf : s.free = []) : Inv dm s := by
  constructor <;> simp [hl, hf, ids, paths]

theorem inv_init (dm : Nat) (raw : Int) : Inv dm (init raw) := inv_of_empty rfl rfl

theorem inv_releaseAll (dm : Nat) (s : St) : Inv dm (releaseAll s) := inv_of_empty rfl rfl

theorem eq_of_nodup_map {α β : Type} {f : α → β} {l : List α} (hnd : (l.map f).Nodup) {a b : α}
    (ha : a ∈ l) (hb : b ∈ l) (h : f a = f b) : a = b :=
  have hne : l.Pairwise (fun a b => f a ≠ f b) := List.pairwise_map.mp hnd
  List.Pairwise.forall_of_forall_of_flip (R := fun a b => f a = f b → a = b) (fun _ _ _ => rfl)
    (hne.imp fun hab h => absurd h hab) (hne.imp fun hab h => absurd h.symm hab) ha hb h

theorem unique_of_nodup_paths {l : List (Nat × Bytes)} {a c : Nat} {b : Bytes}
    (hnd : (paths l).Nodup) (h1 : (a, b) ∈ l) (h2 : (c, b) ∈ l) : a = c :=
  congrArg Prod.fst (eq_of_nodup_map hnd h1 h2 rfl)

theorem find?_eq_some_iff_of_nodup {α β : Type} [BEq β] [LawfulBEq β] {f : α → β} {l : List α} (hnd : (l.map f).Nodup)
    {a : α} {b : β} : l.find? (f · == b) = some a ↔ a ∈ l ∧ f a = b := by
  constructor
  · exact fun h => ⟨List.mem_of_find?_eq_some h, by simpa using List.find?_some h⟩
  · rintro ⟨ha, rfl⟩
    cases hf : l.find? (f · == f a) with
    | none => simpa using List.find?_eq_none.mp hf a ha
    | some x =>
      have hx : f x = f a := by simpa using List.find?_some hf
      rw [eq_of_nodup_map hnd (List.mem_of_find?_eq_some hf) ha hx]

theorem get_eq_some_iff {s : St} (hnd : (ids s.live).Nodup) (h : Nat) (p : Bytes) :
    get s h = some p ↔ (h, p) ∈ s.live := by
  simp only [get, Option.map_eq_some_iff, find?_eq_some_iff_of_nodup hnd]
  exact ⟨fun ⟨_, ⟨hm, h1⟩, h2⟩ => h1 ▸ h2 ▸ hm, fun hm => ⟨_, ⟨hm, rfl⟩, rfl⟩⟩

theorem handleOf_eq_some_iff {s : St} (hnd : (paths s.live).Nodup) (h : Nat) (p : Bytes) :
    handleOf s p = some h ↔ (h, p) ∈ s.live := by
  simp only [handleOf, Option.map_eq_some_iff, find?_eq_some_iff_of_nodup hnd]
  exact ⟨fun ⟨_, ⟨hm, h1⟩, h2⟩ => h1 ▸ h2 ▸ hm, fun hm => ⟨_, ⟨hm, rfl⟩, rfl⟩⟩

theorem handleOf_none {s : St} {p : Bytes} (h : handleOf s p = none) : p ∉ paths s.live := fun hin =>
  let ⟨x, hx, hxp⟩ := List.mem_map.mp hin
  List.find?_eq_none.mp (Option.map_eq_none_iff.mp h) x hx (beq_iff_eq.mpr hxp)

theorem pick_next_le (s : St) : s.next ≤ (pick s).2.2 := by
  unfold pick; split
  · exact Nat.le_refl _
  · exact Nat.le_succ _

/-- the insertion inside `alloc` -/
theorem Wf.insert {s : St} (hI : Wf s) {p : Bytes} (hp : p ≠ []) (hnew : p ∉ paths s.live) :
    Wf { s with live := ((pick s).1, p) :: s.live, free := (pick s).2.1, next := (pick s).2.2 } := by
  have hpaths : (p :: paths s.live).Nodup ∧ [] ∉ p :: paths s.live :=
    ⟨List.nodup_cons.mpr ⟨hnew, hI.pathsNodup⟩, fun h => (List.mem_cons.mp h).elim (fun h => hp h.symm) hI.noEmpty⟩
  unfold pick
  split
  · next m hm =>
    have hperm : (m :: (ids s.live ++ s.free.erase m)).Perm (ids s.live ++ s.free) :=
      List.perm_middle.symm.trans ((List.perm_cons_erase (listMin_mem hm)).symm.append_left _)
    exact ⟨hperm.nodup_iff.mpr hI.pool, fun i hi => hI.lt i (hperm.subset hi), hpaths.1, hpaths.2⟩
  · exact ⟨List.nodup_cons.mpr ⟨fun h => Nat.lt_irrefl _ (hI.lt _ h), hI.pool⟩,
      List.forall_mem_cons.mpr ⟨Nat.lt_succ_self _, fun i hi => Nat.lt_succ_of_lt (hI.lt i hi)⟩, hpaths.1, hpaths.2⟩

theorem release_of_mem {s : St} {h : Nat} (hin : h ∈ ids s.live) :
    release s h = { s with live := s.live.eraseP (·.1 == h), free := s.free ++ [h] } := by
  rw [release, if_pos (any_id_iff.mpr hin)]

theorem release_of_not_mem {s : St} {h : Nat} (hin : h ∉ ids s.live) : release s h = s := by
  rw [release, if_neg (mt any_id_iff.mp hin)]

theorem wf_release (s : St) (h : Nat) (hI : Wf s) : Wf (release s h) := by
  by_cases hin : h ∈ ids s.live
  · rw [release_of_mem hin]
    have hsub : (paths (s.live.eraseP (·.1 == h))).Sublist (paths s.live) := List.eraseP_sublist.map _
    have hperm : (ids (s.live.eraseP (·.1 == h)) ++ (s.free ++ [h])).Perm (ids s.live ++ s.free) := by
      rw [ids_eraseP, ← List.append_assoc, ← List.erase_append_left _ hin]
      exact List.perm_append_singleton .. |>.trans (List.perm_cons_erase (List.mem_append_left _ hin)).symm
    exact ⟨hperm.nodup_iff.mpr hI.pool, fun i hi => hI.lt i (hperm.subset hi), hI.pathsNodup.sublist hsub,
      fun hh => hI.noEmpty (hsub.subset hh)⟩
  · rw [release_of_not_mem hin]; exact hI

theorem inv_release (dm : Nat) (s : St) (h : Nat) (hI : Inv dm s) : Inv dm (release s h) := by
  refine (wf_release s h hI.wf).inv ?_
  by_cases hin : h ∈ ids s.live
  · rw [release_of_mem hin]; exact Nat.le_trans List.eraseP_sublist.length_le hI.bounded
  · rw [release_of_not_mem hin]; exact hI.bounded

theorem wf_evict (k keep : Nat) (s : St) (hI : Wf s) :
    Wf { s with live := (evictN k keep s.live).1, free := s.free ++ (evictN k keep s.live).2 } := by
  induction k generalizing s with
  | zero => rw [evictN, List.append_nil]; exact hI
  | succ k ih =>
    unfold evictN
    split
    · rw [List.append_nil]; exact hI
    · rename_i m hm
      have := ih _ (wf_release s m hI)
      rw [release_of_mem (evictN_pick hm).1] at this
      simpa only [List.append_assoc, List.singleton_append] using this

inductive AllocRun (dm dv : Nat) (s : St) (p : Bytes) (r : St × Nat) : Prop
  | live {h} (hp : p ≠ []) (hh : handleOf s p = some h) (hr : r = (s, h))
  | added (hnone : p ≠ [] → handleOf s p = none) (hroom : s.live.length + 1 ≤ effMax dm s.maxRaw)
      (hr : r = ({ s with live := ((pick s).1, p) :: s.live, free := (pick s).2.1, next := (pick s).2.2 }, (pick s).1))
  | evicted (hnone : p ≠ [] → handleOf s p = none) (hfull : effMax dm s.maxRaw < s.live.length + 1)
      (hr : r = ({ s with
          live := (evictN (evictCount (effMax dm s.maxRaw) dv) (pick s).1 (((pick s).1, p) :: s.live)).1,
          free := (pick s).2.1 ++ (evictN (evictCount (effMax dm s.maxRaw) dv) (pick s).1 (((pick s).1, p) :: s.live)).2,
          next := (pick s).2.2 }, (pick s).1))

theorem alloc_run (dm dv : Nat) (s : St) (p : Bytes) : AllocRun dm dv s p (alloc dm dv s p) := by
  unfold alloc
  split
  · next h hh =>
    by_cases hp : p = []
    · rw [if_pos hp] at hh; cases hh
    · rw [if_neg hp] at hh; exact .live hp hh rfl
  · next hnone =>
    have hnone : p ≠ [] → handleOf s p = none := fun hp => by rwa [if_neg hp] at hnone
    simp only [List.length_cons]
    split
    · exact .evicted hnone ‹_› rfl
    · exact .added hnone (Nat.le_of_not_gt ‹_›) rfl

theorem inv_alloc (dm dv : Nat) (hdm : 0 < dm) (s : St) (p : Bytes) (hp : p ≠ []) (hI : Inv dm s) :
    Inv dm (alloc dm dv s p).1 := by
  cases alloc_run dm dv s p with
  | live _ _ hr => rw [hr]; exact hI
  | added hnone hroom hr => rw [hr]; exact (hI.wf.insert hp (handleOf_none (hnone hp))).inv hroom
  | evicted hnone hfull hr =>
    rw [hr]
    have hW := hI.wf.insert hp (handleOf_none (hnone hp))
    refine (wf_evict _ _ _ hW).inv ?_
    -- the table was full and not empty, so an entry other than the new one is there to be evicted
    have hid : (pick s).1 ∉ ids s.live := fun h => (List.nodup_cons.mp hW.pool).1 (List.mem_append_left _ h)
    have := effMax_pos dm s.maxRaw hdm
    obtain ⟨y, hy⟩ := List.length_pos_iff_exists_mem.mp (show 0 < s.live.length by omega)
    have := evictN_length_lt (evictCount_pos (effMax dm s.maxRaw) dv) (pick s).1 (((pick s).1, p) :: s.live)
      ⟨y, List.mem_cons_of_mem _ hy, fun h => hid (h ▸ List.mem_map_of_mem hy)⟩
    rw [List.length_cons] at this
    exact Nat.le_of_lt_succ (Nat.lt_of_lt_of_le this (Nat.succ_le_succ hI.bounded))

theorem mem_of_get {s : St} {h : Nat} {p : Bytes} (hg : get s h = some p) : (h, p) ∈ s.live := by
  obtain ⟨x, hx, rfl⟩ := Option.map_eq_some_iff.mp hg
  have h1 : x.1 = h := by simpa using List.find?_some hx
  exact h1 ▸ List.mem_of_find?_eq_some hx

theorem get_alloc (dm dv : Nat) (s : St) (p : Bytes) (hI : Inv dm s) :
    get (alloc dm dv s p).1 (alloc dm dv s p).2 = some p := by
  cases alloc_run dm dv s p with
  | live _ hh hr => rw [hr]; exact (get_eq_some_iff hI.idsNodup _ p).mpr ((handleOf_eq_some_iff hI.pathsNodup _ p).mp hh)
  | added _ _ hr => rw [hr]; simp [get]
  | evicted _ _ hr =>
    rw [hr]
    obtain ⟨rest', hr'⟩ := evictN_head (evictCount (effMax dm s.maxRaw) dv) (pick s).1 p s.live
    simp [get, hr']

theorem alloc_live (dm dv : Nat) (s : St) (h : Nat) (p : Bytes) (hp : p ≠ []) (hI : Inv dm s) (hg : get s h = some p) :
    alloc dm dv s p = (s, h) := by
  have hh := (handleOf_eq_some_iff hI.pathsNodup h p).mpr ((get_eq_some_iff hI.idsNodup h p).mp hg)
  unfold alloc
  rw [if_neg hp, hh]

theorem alloc_maxRaw (dm dv : Nat) (s : St) (p : Bytes) : (alloc dm dv s p).1.maxRaw = s.maxRaw := by
  cases alloc_run dm dv s p with
  | live _ _ hr | added _ _ hr | evicted _ _ hr => rw [hr]

theorem mem_alloc_live {dm dv : Nat} {s : St} {p : Bytes} {x : Nat × Bytes} (hx : x ∈ (alloc dm dv s p).1.live) :
    x.2 = p ∨ x ∈ s.live := by
  have hcons : x ∈ ((pick s).1, p) :: s.live → x.2 = p ∨ x ∈ s.live := fun h =>
    (List.mem_cons.mp h).imp (fun (h : x = _) => h ▸ rfl) id
  cases alloc_run dm dv s p with
  | live _ _ hr => rw [hr] at hx; exact .inr hx
  | added _ _ hr => rw [hr] at hx; exact hcons hx
  | evicted _ _ hr => rw [hr] at hx; exact hcons ((evictN_sublist ..).subset hx)

theorem alloc_room (dm dv : Nat) (s : St) (p : Bytes) (hroom : s.live.length + 1 ≤ effMax dm s.maxRaw) :
    s.live ⊆ (alloc dm dv s p).1.live ∧ (alloc dm dv s p).1.live.length ≤ s.live.length + 1 := by
  cases alloc_run dm dv s p with
  | live _ _ hr => rw [hr]; exact ⟨fun _ h => h, Nat.le_succ _⟩
  | added _ _ hr => rw [hr]; exact ⟨List.subset_cons_self .., Nat.le_refl _⟩
  | evicted _ hfull => exact absurd hroom (Nat.not_le_of_gt hfull)

def Op.WF : Op → Prop
  | .alloc p => p ≠ []
  | _ => True

theorem inv_step (dm dv : Nat) (hdm : 0 < dm) (s : St) (op : Op) (hw : op.WF) (hI : Inv dm s) :
    Inv dm (step dm dv s op) := by
  cases op with
  | alloc p => exact inv_alloc dm dv hdm s p hw hI
  | release h => exact inv_release dm s h hI
  | releaseAll => exact inv_releaseAll dm s

theorem inv_run (dm dv : Nat) (hdm : 0 < dm) (s : St) (ops : List Op) (hw : ∀ op ∈ ops, op.WF)
    (hI : Inv dm s) : Inv dm (run dm dv s ops) :=
  List.foldlRecOn ops _ hI fun s hI op hop => inv_step dm dv hdm s op (hw op hop) hI

end Handles
end Absnfs
