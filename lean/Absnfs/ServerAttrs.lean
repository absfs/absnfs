/-
  ServerAttrs: where the attributes in replies come from (C04, C02). The vocabulary of the cache invariant is defined
  here: `MatchesLstat fs p a` (attributes agree with the backend's Lstat of `p`), `EntryOK` (a cache entry, positive or
  negative, agrees with the backend), `AcCoherent` (every entry does). GetAttr's attributes always match; Lookup's do
  over a coherent cache (`lookupPath_sound`), and then Lookup of a non-empty path fails exactly when Lstat does
  (`lookupPath_not_error`).
-/
import Absnfs.ServerFrame
namespace Absnfs
namespace Server

/-- uid and gid are not compared: GetAttr reports the node's, a Lookup that reads the backend 0, neither Lstat's (operations.go) -/
def MatchesLstat (fs : Fs.T) (path : Bytes) (a : Attrs) : Prop :=
  ∃ i, Fs.lstat fs (fsPath path) = .ok i ∧ a.kind = i.kind ∧ a.size = i.size ∧ a.perm = i.perm ∧ a.fileId = fnv64 path

theorem getAttr_matches {s s' : St} {now : Nat} {n : Node} {a : Attrs} (h : getAttr s now n = (s', .ok a)) :
    MatchesLstat s.fs n.path a := by
  obtain ⟨i, hi, rfl⟩ := getAttr_ok h
  exact ⟨i, hi, rfl, rfl, rfl, rfl⟩

theorem MatchesLstat.of_view {fs fs' : Fs.T} {p : Bytes} {a : Attrs} (h : MatchesLstat fs p a) (hw' : Fs.WF fs')
    (hv : Fs.viewAt fs' (fsPath p) = Fs.viewAt fs (fsPath p)) : MatchesLstat fs' p a := by
  obtain ⟨i, hi, h1, h2, h3, h4⟩ := h
  obtain ⟨i', hi', k1, k2, k3⟩ := Fs.lstat_of_view hw' (hv ▸ Fs.lstat_ok_view hi)
  exact ⟨i', hi', h1.trans k1.symm, h2.trans k2.symm, h3.trans k3.symm, h4⟩

def EntryOK (fs : Fs.T) (e : Lru.Entry Attrs) : Prop :=
  match e.val with
  | some a => MatchesLstat fs e.key a
  | none => ∃ err, Fs.lstat fs (fsPath e.key) = .error err

def AcCoherent (s : St) : Prop := ∀ e ∈ s.ac.entries, EntryOK s.fs e

theorem AcCoherent.get {s : St} (hc : AcCoherent s) (now : Nat) (p : Bytes) :
    match (Lru.get s.ac now p).2 with
    | .hit a => MatchesLstat s.fs p a
    | .neg => ∃ err, Fs.lstat s.fs (fsPath p) = .error err
    | .miss => True := by
  rcases Lru.get_entry s.ac now p with hm | ⟨e, he, rfl, hv⟩
  · rw [hm]; trivial
  · rw [hv]
    have := hc e he
    unfold EntryOK at this
    generalize e.val = v at this ⊢
    cases v <;> exact this

theorem lookupPath_answer {s : St} (hc : AcCoherent s) (now : Nat) (p : Bytes) :
    match (lookupPath s now p).2 with
    | .ok node => node.path = p ∧ MatchesLstat s.fs p node.attrs
    | .error _ => p = [] ∨ ∃ err, Fs.lstat s.fs (fsPath p) = .error err := by
  have hget := hc.get now p
  cases lookupPath_run s now p with
  | empty hp hr => rw [hr]; exact .inl hp
  | hit _ hg hr => rw [hr]; rw [hg] at hget; exact ⟨rfl, hget⟩
  | neg _ hg hr => rw [hr]; rw [hg] at hget; exact .inr hget
  | absent _ _ hl hr => rw [hr]; exact .inr ⟨_, hl⟩
  | found _ _ hl hr => rw [hr]; exact ⟨rfl, _, hl, rfl, rfl, rfl, rfl⟩

/-- C02/C04: over a coherent attribute cache Lookup answers what the backend's Lstat would -/
theorem lookupPath_sound {s s' : St} {now : Nat} {p : Bytes} (hc : AcCoherent s) :
    (∀ node, lookupPath s now p = (s', .ok node) → node.path = p ∧ MatchesLstat s.fs p node.attrs) ∧
    (∀ st, lookupPath s now p = (s', .error st) → p = [] ∨ ∃ err, Fs.lstat s.fs (fsPath p) = .error err) := by
  have := lookupPath_answer hc now p
  constructor <;> (intro _ h; rw [h] at this; exact this)

theorem lookupPath_not_error {s s' : St} {now : Nat} {p : Bytes} {i : Fs.Info} {e : Fs.Errno} (hc : AcCoherent s) (hp : p ≠ [])
    (hi : Fs.lstat s.fs (fsPath p) = .ok i) (heq : lookupPath s now p = (s', .error e)) : False := by
  rcases (lookupPath_sound (s' := s') hc).2 e heq with h | ⟨err, herr⟩
  · exact hp h
  · rw [hi] at herr; cases herr

theorem refreshed_matches {fs : Fs.T} {n : Node} (h : MatchesLstat fs n.path n.attrs) :
    MatchesLstat fs (refreshed fs n).path (refreshed fs n).attrs := by
  obtain ⟨i, hi, _, _, _, hf⟩ := h
  unfold refreshed
  rw [hi]
  exact ⟨i, hi, rfl, rfl, rfl, hf⟩

theorem refreshEach_matches (s : St) (now : Nat) (l : List Node) (hl : ∀ n ∈ l, MatchesLstat s.fs n.path n.attrs) :
    ∀ n ∈ (refreshEach s now l).2, MatchesLstat s.fs n.path n.attrs := by
  rw [refreshEach_snd]
  intro n hn
  obtain ⟨m, hm, rfl⟩ := List.mem_map.mp hn
  exact refreshed_matches (hl m hm)

theorem nodeOf_ac (s : St) (ac : Lru.Cache Attrs) (h : Nat) : nodeOf { s with ac := ac } h = nodeOf s h := rfl

theorem nodeOf_updNodeAt_some (s : St) (h : Nat) (f : Attrs → Attrs) (n : Node) (hn : nodeOf s h = some n) :
    nodeOf (updNodeAt s h f) h = some { n with attrs := f n.attrs } := by
  rw [nodeOf_updNodeAt, hn]; rfl

theorem setattrTarget_keeps (c : Ctx) (sa : Sattr3) (a0 : Attrs) :
    (setattrTarget c sa a0).kind = a0.kind ∧ (setattrTarget c sa a0).fileId = a0.fileId ∧
    (setattrTarget c sa a0).size = a0.size := by
  unfold setattrTarget
  repeat' split
  all_goals exact ⟨rfl, rfl, rfl⟩

theorem setAttrOp_nodeOf {s s' : St} {h : Nat} {n : Node} {a : Attrs} {ts : Bool} {r : Option Nat}
    (hn : nodeOf s h = some n) (hop : setAttrOp s h n a ts = (s', r)) :
    nodeOf s' h = some n ∨ nodeOf s' h = some { n with attrs := a } := by
  cases hop ▸ setAttrOp_run s h n a ts with
  | lstatFailed _ hr | chmodFailed _ _ hr | chownFailed _ _ _ hr | chtimesFailed _ _ _ _ hr => cases hr; exact .inl hn
  | @ok _ _ fs2 _ _ _ _ hr => cases hr; exact .inr (nodeOf_updNodeAt_some { s with fs := fs2 } h (fun _ => a) n hn)

end Server
end Absnfs
