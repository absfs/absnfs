/-
  ServerKeeps: "every request keeps `I`" for any state invariant `I` that the server's steps keep.

  `Blocks I` lists what has to be shown of `I`: the read-side blocks, each under the side conditions the procedures
  establish before they call it (a clean path from the handle table, a validated name), and the steps the
  backend-changing operations are made of. The operations are composed from these once, for any `I` (`Blocks.writeOp`,
  `setattrSize`, `createStep1`, `setAttrOp`, `removed`, `makeRun`), and `procX_keeps`, `handle_keeps`, `runReqs_keeps` follow by the
  paths of `ServerRun` — the one place where procedures and invariants meet. `CInv` (ServerInvProcs) and `CInv ∧ DcSup`
  (ServerDcSup) are the two instances. `Req` and `runReqs` (a history of requests) are defined here.
-/
import Absnfs.ServerPaths
namespace Absnfs
namespace Server

/-- `upd`: a backend call other than Rename that makes no name is an `Fs.Upd` at a clean path `p`. It comes with the
    invalidation of `p`: between the two, a cached attribute entry for `p` may contradict the backend, so `I` need not hold.
    `make`: a call that makes a name comes with all of `invalidateForNew`: until the parent's listing is dropped, a cached
    listing lacks the new name. What else an operation invalidates is `acInv`, `dcInv`; what else it does, `unseen`. Rename
    (a subtree moves) is taken whole. -/
structure Blocks (I : St → Prop) : Prop where
  clean : ∀ {s}, I s → HandlesClean s
  getAttr : ∀ {s s' now n r}, I s → CleanPath n.path → getAttr s now n = (s', r) → I s'
  lookupPath : ∀ {s s' now p r}, I s → CleanPath p → lookupPath s now p = (s', r) → I s'
  allocate : ∀ {s} (node : Node), I s → CleanPath node.path → I (Server.allocate s node).1
  readDir : ∀ {s s' now n r}, I s → CleanPath n.path → readDir s now n = (s', r) → I s' ∧ ∀ nodes, r = .ok nodes → NodesOK nodes
  refreshEach : ∀ {s} (now : Nat) {l : List Node}, I s → NodesOK l → I (Server.refreshEach s now l).1
  wf : ∀ {s}, I s → Fs.WF s.fs
  unseen : ∀ {s s'}, Unseen s s' → I s → I s'
  acInv : ∀ {s} (p : Bytes), I s → I (acInv s p)
  dcInv : ∀ {s} (p : Bytes), I s → I (dcInv s p)
  upd : ∀ {s fs1 p g}, I s → CleanPath p → Fs.Upd s.fs (fsPath p) g fs1 → g none = none → I (Server.acInv { s with fs := fs1 } p)
  make : ∀ {s fs1 dir name en}, I s → CleanPath dir → NoSep name →
    Fs.Upd s.fs (fsPath (joinName dir name)) (fun _ => some en) fs1 → I (invalidateForNew { s with fs := fs1 } dir (joinName dir name))
  renameOp : ∀ {s2 s3 d1 n1 d2 n2}, I s2 → CleanPath d1.path → CleanPath d2.path → NoSep n1 → NoSep n2 →
    renameOp s2 d1 n1 d2 n2 = .ok s3 → I s3

namespace Blocks
variable {I : St → Prop} (B : Blocks I)
include B

theorem node {s : St} (h : I s) {hd : Nat} {n : Node} (hn : nodeOf s hd = some n) : CleanPath n.path :=
  nodeOf_clean (B.clean h) hn

theorem getAttrOr {s : St} (h : I s) (now : Nat) {n : Node} (hnc : CleanPath n.path) (d : Attrs) :
    I (Server.getAttrOr s now n d).1 := by
  unfold Server.getAttrOr
  split <;> exact B.getAttr h hnc ‹_›

theorem attrThen {s : St} {now : Nat} {n : Node} {fail : Rfc.Body} {k : Attrs → Outcome} {r : St × Outcome}
    (ht : AttrThen s now n fail k r) (h : I s) (hnc : CleanPath n.path) : I r.1 := by
  cases ht with
  | failed hg hr | ok hg hr => rw [hr]; exact B.getAttr h hnc hg

theorem madeThen {s : St} {c : Ctx} {n : Node} {pre : Attrs} {node : Node} {r : St × Outcome}
    (ht : MadeThen s c n pre node r) (h : I s) (hnc : CleanPath n.path) (hnp : CleanPath node.path) : I r.1 := by
  cases ht with
  | postFailed hg hr => rw [hr]; exact B.getAttr h hnc hg
  | ok hg hr => rw [hr]; exact B.allocate node (B.getAttr h hnc hg) hnp

/-- WRITE and SETATTR know from the attributes they just took that the path holds no link: the backend call changes the
    object at the path itself; then the size kept with the handle is refreshed -/
theorem resized {s1 : St} {fs1 : Fs.T} {n : Node} {g : Option Fs.Entry → Option Fs.Entry} (h : I s1) (hnc : CleanPath n.path)
    (hu : Fs.Upd s1.fs (fsPath n.path) g fs1) (hd : Nat) (hg : g none = none := by rfl) :
    I (refreshSize (Server.acInv { s1 with fs := fs1 } n.path) hd n.path) :=
  B.unseen (refreshSize_unseen ..) (B.upd h hnc hu hg)

theorem writeOp {s1 s2 : St} {hd : Nat} {n : Node} {off k : Nat} {data : Bytes} {e : Fs.Entry} (h : I s1) (hnc : CleanPath n.path)
    (hwe : Fs.walk s1.fs (fsPath n.path) = .ok e) (hk : e.kind ≠ .link) (hop : writeOp s1 hd n off data = .ok (s2, k)) : I s2 := by
  obtain ⟨_, fs1, hwa, rfl⟩ := writeOp_ok hop
  exact B.resized h hnc ((Fs.writeAt_upd hwa).at_nonlink hwe hk) hd

theorem setattrSize {s1 s2 : St} {hd : Nat} {n : Node} {pre : Attrs} {sz : Option Nat} {e : Fs.Entry} (h : I s1)
    (hnc : CleanPath n.path) (hwe : Fs.walk s1.fs (fsPath n.path) = .ok e) (hke : e.kind = pre.kind)
    (hop : setattrSize s1 hd n pre sz = .ok s2) : I s2 := by
  rcases setattrSize_ok hop with ⟨_, rfl⟩ | ⟨_, fs1, _, _, _, hnl, htr, rfl⟩
  · exact h
  · exact B.resized h hnc ((Fs.truncate_upd htr).at_nonlink hwe (by rw [hke]; exact hnl)) hd

theorem createStep1 {s1 : St} {p : Bytes} {info : Fs.Info} (how : Nat) (sa : Sattr3) (verf : Bytes) (h : I s1) (hpc : CleanPath p)
    (hinfo : Fs.lstat s1.fs (fsPath p) = .ok info) : I (Server.createStep1 s1 p info how sa verf).1 := by
  cases createStep1_run s1 p info how sa verf with
  | exist _ hr => rw [hr]; exact h
  | proceed _ hk _ hs =>
    cases hs with
    | kept _ hr => rw [hr]; exact h
    | tooLarge _ _ _ hr | fbig _ _ _ hr | truncFailed _ _ _ hr => rw [hr]; exact B.acInv p h
    | truncated _ _ _ _ ht hr =>
      -- Lstat just showed a regular file, so Truncate (which would follow a link) changes the object at `p` itself
      obtain ⟨e, hwe, hie⟩ := Fs.lstat_ok_walk hinfo
      have hnl : e.kind ≠ .link := by rw [show e.kind = .file from (congrArg Fs.Info.kind hie).trans hk]; decide
      rw [hr]; exact B.upd h hpc ((Fs.truncate_upd ht).at_nonlink hwe hnl) rfl

theorem setAttrOp {s s' : St} {hd : Nat} {n : Node} {a : Attrs} {ts : Bool} {r : Option Nat} (h : I s) (hnc : CleanPath n.path)
    (hop : setAttrOp s hd n a ts = (s', r)) : I s' := by
  cases hop ▸ setAttrOp_wf s hd n a ts (B.wf h) with
  | lstatFailed _ hr => cases hr; exact h
  | ok hu hg hr => cases hr; exact B.unseen (updNodeAt_unseen ..) (B.upd h hnc hu hg)

theorem removed {s1 : St} {fs1 : Fs.T} {n : Node} {name : Bytes} (h : I s1) (hd : CleanPath n.path) (hn : NoSep name)
    (hrm : Fs.remove s1.fs (fsPath (joinName n.path name)) = .ok fs1) :
    I (Server.dcInv (Server.acInv (Server.acInv { s1 with fs := fs1 } (joinName n.path name)) n.path) n.path) :=
  B.dcInv _ (B.acInv _ (B.upd h (.child _ _ hd hn) (Fs.remove_upd hrm) rfl))

theorem makeRun {s s' : St} {now : Nat} {dir : Node} {name : Bytes} {r : Except Fs.Errno Node}
    (hm : MakeRun s now dir name (s', r)) (h : I s) (hd : CleanPath dir.path) (hn : NoSep name) : I s' := by
  cases hm with
  | failed hr => cases hr; exact h
  | made hu hr => exact B.lookupPath (B.make h hd hn hu) (.child dir.path name hd hn) hr.symm

theorem fillDirPlus (limit cookie : Nat) {s : St} (i used cnt : Nat) {l : List Node} (h : I s)
    (hl : ∀ m ∈ l, CleanPath m.path) : I (Server.fillDirPlus limit cookie s i used cnt l).1 :=
  fillDirPlus_induct (fun x hx h => B.allocate x h (hl x hx)) limit cookie i used cnt h

theorem procGetattr_keeps (s : St) (c : Ctx) (args : Bytes) (h : I s) : I (procGetattr s c args).1 := by
  cases procGetattr_run s c args with
  | refused hr => rw [hr.fst]; exact h
  | run _ hn ht => exact B.attrThen ht h (B.node h hn)

theorem withObjAttr_keeps (s : St) (c : Ctx) (args : Bytes) (k : Rfc.Fattr → Rfc.Body) (h : I s) :
    I (withObjAttr s c args k).1 := by
  cases withObjAttr_run s c args k with
  | refused hr => rw [hr.fst]; exact h
  | run _ hn ht => exact B.attrThen ht h (B.node h hn)

theorem procAccess_keeps (s : St) (c : Ctx) (args : Bytes) (h : I s) : I (procAccess s c args).1 := by
  cases procAccess_run s c args with
  | refused hr => rw [hr.fst]; exact h
  | run _ _ hn ht => exact B.attrThen ht h (B.node h hn)

theorem procReadlink_keeps (s : St) (c : Ctx) (args : Bytes) (h : I s) : I (procReadlink s c args).1 := by
  cases procReadlink_run s c args with
  | refused hr => rw [hr.fst]; exact h
  | run _ hn _ _ _ ht => exact B.attrThen ht h (B.node h hn)

theorem procRead_keeps (s : St) (c : Ctx) (args : Bytes) (h : I s) : I (procRead s c args).1 := by
  cases procRead_run s c args with
  | refused hr => rw [hr.fst]; exact h
  | run _ _ _ _ _ hn _ ht => exact B.attrThen ht h (B.node h hn)

theorem procCommit_keeps (s : St) (c : Ctx) (args : Bytes) (h : I s) : I (procCommit s c args).1 := by
  cases procCommit_run s c args with
  | refused hr => rw [hr.fst]; exact h
  | run _ hn _ ht => exact B.attrThen ht h (B.node h hn)

theorem procLookup_keeps (s : St) (c : Ctx) (args : Bytes) (h : I s) : I (procLookup s c args).1 := by
  cases procLookup_run s c args with
  | refused hr => rw [hr.fst]; exact h
  | @run _ _ name _ n _ _ hv hn hrun =>
    have hnc := B.node h hn
    have hpc : CleanPath (joinName n.path name) := joinName_clean n.path name hnc hv
    -- `(lookupDirAttr t …).1` is `(getAttrOr t …).1` by `rfl`
    have keep : ∀ (t : St) (k : Attrs → Outcome), I t → I (lookupDirAttr t c.now n k).1 :=
      fun _ _ ht => B.getAttrOr ht c.now hnc n.attrs
    cases hrun with
    | notDir _ hr => rw [hr]; exact keep _ _ h
    | absent _ hl hr => rw [hr]; exact keep _ _ (B.lookupPath h hpc hl)
    | ok _ hl hr =>
      rw [hr]
      exact keep _ _ (B.allocate _ (B.lookupPath h hpc hl) (by rw [lookupPath_path hl]; exact hpc))

theorem procMnt_keeps (s : St) (c : Ctx) (args : Bytes) (h : I s) : I (procMnt s c args).1 := by
  cases procMnt_run s c args with
  | garbage _ hr | relative _ _ hr | badName _ _ hr => rw [hr]; exact h
  | absent _ hl hr => rw [hr]; exact B.lookupPath h (cleanAbs_clean _) hl
  | ok _ hl hr =>
    rw [hr]
    exact B.allocate _ (B.lookupPath h (cleanAbs_clean _) hl) (by rw [lookupPath_path hl]; exact cleanAbs_clean _)

theorem procReaddir_keeps (s : St) (c : Ctx) (args : Bytes) (h : I s) : I (procReaddir s c args).1 := by
  cases procReaddir_run s c args with
  | refused hr => rw [hr.fst]; exact h
  | run _ _ _ _ hn _ hrun =>
    have hnc := B.node h hn
    cases hrun with
    | readFailed hrd hr => rw [hr]; exact (B.readDir h hnc hrd).1
    | attrFailed hrd hg hr | tooSmall hrd hg _ hr | ok hrd hg _ hr =>
      rw [hr]; exact B.getAttr (B.readDir h hnc hrd).1 hnc hg

theorem procReaddirplus_keeps (s : St) (c : Ctx) (args : Bytes) (h : I s) : I (procReaddirplus s c args).1 := by
  cases procReaddirplus_run s c args with
  | refused hr => rw [hr.fst]; exact h
  | run _ _ _ _ _ hn _ hrun =>
    have hnc := B.node h hn
    cases hrun with
    | readFailed hrd hr => rw [hr]; exact (B.readDir h hnc hrd).1
    | attrFailed hrd hg hr =>
      rw [hr]; exact B.getAttr (B.refreshEach c.now (B.readDir h hnc hrd).1 ((B.readDir h hnc hrd).2 _ rfl)) hnc hg
    | tooSmall hrd hg hf hr | ok hrd hg hf hr =>
      have hok := (B.readDir h hnc hrd).2 _ rfl
      rw [hr]
      exact congrArg Prod.fst hf ▸ B.fillDirPlus _ _ 0 dirListHeader 0
        (B.getAttr (B.refreshEach c.now (B.readDir h hnc hrd).1 hok) hnc hg)
        (refreshEach_clean _ _ fun m hm => (hok m hm).1)

theorem procSetattr_keeps (s : St) (c : Ctx) (args : Bytes) (h : I s) : I (procSetattr s c args).1 := by
  cases procSetattr_run s c args with
  | refused hr => rw [hr.fst]; exact h
  | run _ _ _ _ _ hn hrun =>
    have hnc := B.node h hn
    cases hrun with
    | attrFailed hg hr | guarded hg _ hr | sizeFailed hg _ _ hr => rw [hr]; exact B.getAttr h hnc hg
    | sized hg _ hsz hr =>
      obtain ⟨e, hwe, hke⟩ := getAttr_pre_walk hg
      have h2 := B.setattrSize (B.getAttr h hnc hg) hnc hwe hke hsz
      rw [hr]
      cases setattrApply_run .. with
      | noNode _ hr => rw [hr]; exact h2
      | opFailed hn2 hop hr => rw [hr]; exact B.setAttrOp h2 (B.node h2 hn2) hop
      | applied hn2 hop ht =>
        have hnc2 : CleanPath _ := B.node h2 hn2
        exact B.attrThen ht (B.setAttrOp h2 hnc2 hop) hnc2

theorem procWrite_keeps (s : St) (c : Ctx) (args : Bytes) (h : I s) : I (procWrite s c args).1 := by
  cases procWrite_run s c args with
  | refused hr => rw [hr.fst]; exact h
  | run _ _ _ _ _ _ _ _ _ _ _ hn hrun =>
    have hnc := B.node h hn
    cases hrun with
    | attrFailed hg hr | isLink hg _ hr => rw [hr]; exact B.getAttr h hnc hg
    | opFailed hg _ _ hr => rw [hr]; exact B.getAttrOr (B.getAttr h hnc hg) _ hnc _
    | postFailed hg hk hop hg2 hr | ok hg hk hop hg2 hr =>
      obtain ⟨e, hwe, hke⟩ := getAttr_pre_walk hg
      rw [hr]
      exact B.getAttr (B.writeOp (B.getAttr h hnc hg) hnc hwe (by rw [hke]; exact hk) hop) hnc hg2

theorem createFinish_keeps (s2 : St) (st : Nat) (c : Ctx) (n : Node) (pre : Attrs) (p : Bytes) (h2 : I s2)
    (hnc : CleanPath n.path) (hpc : CleanPath p) : I (createFinish s2 st c n pre p).1 := by
  cases createFinish_run s2 st c n pre p with
  | failed _ hr => rw [hr]; exact B.getAttrOr h2 _ hnc _
  | lookupFailed _ hl hr => rw [hr]; exact B.getAttrOr (B.lookupPath h2 hpc hl) _ hnc _
  | ok _ hl hr =>
    rw [hr]
    exact B.allocate _ (B.getAttrOr (B.lookupPath h2 hpc hl) c.now hnc pre) (by rw [lookupPath_path hl]; exact hpc)

theorem procCreate_keeps (s : St) (c : Ctx) (args : Bytes) (h : I s) : I (procCreate s c args).1 := by
  cases procCreate_run s c args with
  | refused hr => rw [hr.fst]; exact h
  | run _ _ _ hv _ _ _ hn hrun =>
    have hnc := B.node h hn
    have hns := noSep_of_valid _ hv
    cases hrun with
    | attrFailed hg hr => rw [hr]; exact B.getAttr h hnc hg
    | existing hg hi hr =>
      have hpc := joinName_clean _ _ hnc hv
      rw [hr]
      exact B.createFinish_keeps _ _ c _ _ _ (B.createStep1 _ _ _ (B.getAttr h hnc hg) hpc hi) hnc hpc
    | fresh hg hi hr =>
      rw [hr]
      -- the name is one Lstat just failed to find: Create's Chmod cannot fail (`createOp_fresh`)
      have h1 := B.getAttr h hnc hg
      have made {m s2 r} (hop : Server.createOp _ c.now _ _ m = (s2, r)) : I s2 :=
        B.makeRun (hop ▸ createOp_fresh _ _ _ _ _ (B.wf h1) hi).make h1 hnc hns
      cases createNew_run .. with
      | opFailed hop hr => rw [hr]; exact B.getAttrOr (made hop) _ hnc _
      | made hop ht =>
        exact B.madeThen ht (B.unseen ((remembered_unseen ..).trans (chownQuiet_unseen ..)) (made hop)) hnc
          (createOp_path hop ▸ .child _ _ hnc hns)

theorem procMkdir_keeps (s : St) (c : Ctx) (args : Bytes) (h : I s) : I (procMkdir s c args).1 := by
  cases procMkdir_run s c args with
  | refused hr => rw [hr.fst]; exact h
  | @run _ _ name _ sa _ n _ _ _ hv _ _ hn hrun =>
    have hnc := B.node h hn
    have hpc := joinName_clean _ _ hnc hv
    have made {s1 pre fs1} (hg : Server.getAttr s c.now n = (s1, .ok pre))
        (hop : Fs.mkdir s1.fs (fsPath (joinName n.path name)) (sa.mode.getD 0o755) = .ok fs1) : I (mkdirMade s1 fs1 c n name sa) :=
      B.unseen (chownQuiet_unseen ..) (B.make (B.getAttr h hnc hg) hnc (noSep_of_valid _ hv) (Fs.mkdir_upd hop))
    cases hrun with
    | attrFailed hg hr => rw [hr]; exact B.getAttr h hnc hg
    | opFailed hg _ hr => rw [hr]; exact B.getAttrOr (B.getAttr h hnc hg) _ hnc _
    | lookupFailed hg hop hl hr => rw [hr]; exact B.lookupPath (made hg hop) hpc hl
    | made hg hop hl ht =>
      exact B.madeThen ht (B.lookupPath (made hg hop) hpc hl) hnc (by rw [lookupPath_path hl]; exact hpc)

theorem procSymlink_keeps (s : St) (c : Ctx) (args : Bytes) (h : I s) : I (procSymlink s c args).1 := by
  cases procSymlink_run s c args with
  | refused hr => rw [hr.fst]; exact h
  | @run _ _ name _ _ _ target _ n _ _ _ hv _ _ _ _ _ hn hrun =>
    have hnc := B.node h hn
    have hns := noSep_of_valid _ hv
    have made {s1 pre s2 r} (hg : Server.getAttr s c.now n = (s1, .ok pre))
        (hop : Server.symlinkOp s1 c.now n name target = (s2, r)) : I s2 :=
      B.makeRun (hop ▸ symlinkOp_make ..) (B.getAttr h hnc hg) hnc hns
    cases hrun with
    | attrFailed hg hr => rw [hr]; exact B.getAttr h hnc hg
    | opFailed hg hop hr => rw [hr]; exact B.getAttrOr (made hg hop) _ hnc _
    | made hg hop ht =>
      exact B.madeThen ht (B.unseen (lchownQuiet_unseen ..) (made hg hop)) hnc (symlinkOp_path hop ▸ .child _ _ hnc hns)

theorem procRemove_keeps (s : St) (c : Ctx) (args : Bytes) (h : I s) : I (procRemove s c args).1 := by
  cases procRemove_run s c args with
  | refused hr => rw [hr.fst]; exact h
  | run _ _ _ hv hn _ hrun =>
    have hnc := B.node h hn
    cases hrun with
    | attrFailed hg hr => rw [hr]; exact B.getAttr h hnc hg
    | opFailed hg _ hr => rw [hr]; exact B.getAttrOr (B.getAttr h hnc hg) _ hnc _
    | removed hg hop ht =>
      obtain ⟨_, hrm, rfl⟩ := removeOp_ok hop
      exact B.attrThen ht (B.removed (B.getAttr h hnc hg) hnc (noSep_of_valid _ hv) hrm) hnc

theorem procRmdir_keeps (s : St) (c : Ctx) (args : Bytes) (h : I s) : I (procRmdir s c args).1 := by
  cases procRmdir_run s c args with
  | refused hr => rw [hr.fst]; exact h
  | run _ _ _ hv hn _ hrun =>
    have hnc := B.node h hn
    cases hrun with
    | attrFailed hg hr | absent hg _ hr | notDir hg _ _ hr => rw [hr]; exact B.getAttr h hnc hg
    | opFailed hg _ _ _ hr => rw [hr]; exact B.getAttrOr (B.getAttr h hnc hg) _ hnc _
    | removed hg _ _ hop ht => exact B.attrThen ht (B.dcInv _ (B.removed (B.getAttr h hnc hg) hnc (noSep_of_valid _ hv) hop)) hnc

theorem procRename_keeps (s : St) (c : Ctx) (args : Bytes) (h : I s) : I (procRename s c args).1 := by
  cases procRename_run s c args with
  | refused hr => rw [hr.fst]; exact h
  | run _ _ _ hv1 _ _ hv2 hd1 hd2 hrun =>
    have hc1 := B.node h hd1
    have hc2 := B.node h hd2
    have renamed {s1 pre1 s2 pre2 s3} (hg1 : Server.getAttr s c.now _ = (s1, .ok pre1))
        (hg2 : Server.getAttr s1 c.now _ = (s2, .ok pre2)) (hop : Server.renameOp s2 _ _ _ _ = .ok s3) : I s3 :=
      B.renameOp (B.getAttr (B.getAttr h hc1 hg1) hc2 hg2) hc1 hc2 (noSep_of_valid _ hv1) (noSep_of_valid _ hv2) hop
    cases hrun with
    | attr1Failed hg1 hr => rw [hr]; exact B.getAttr h hc1 hg1
    | attr2Failed hg1 hg2 hr => rw [hr]; exact B.getAttr (B.getAttr h hc1 hg1) hc2 hg2
    | opFailed hg1 hg2 _ hr =>
      rw [hr]
      exact B.getAttrOr (B.getAttrOr (B.getAttr (B.getAttr h hc1 hg1) hc2 hg2) _ hc1 _) _ hc2 _
    | post1Failed hg1 hg2 hop hp1 hr =>
      rw [hr]; exact B.getAttr (renamed hg1 hg2 hop) hc1 hp1
    | post2Failed hg1 hg2 hop hp1 hp2 hr | ok hg1 hg2 hop hp1 hp2 hr =>
      rw [hr]; exact B.getAttr (B.getAttr (renamed hg1 hg2 hop) hc1 hp1) hc2 hp2

theorem handleNfs_keeps (s : St) (c : Ctx) (proc : Nat) (args : Bytes) (h : I s) : I (handleNfs s c proc args).1 := by
  fun_cases handleNfs s c proc args
  · exact h  -- NULL
  · exact B.procGetattr_keeps s c args h
  · exact B.procSetattr_keeps s c args h
  · exact B.procLookup_keeps s c args h
  · exact B.procAccess_keeps s c args h
  · exact B.procReadlink_keeps s c args h
  · exact B.procRead_keeps s c args h
  · exact B.procWrite_keeps s c args h
  · exact B.procCreate_keeps s c args h
  · exact B.procMkdir_keeps s c args h
  · exact B.procSymlink_keeps s c args h
  · exact h  -- MKNOD answers NFS3ERR_NOTSUPP
  · exact B.procRemove_keeps s c args h
  · exact B.procRmdir_keeps s c args h
  · exact B.procRename_keeps s c args h
  · exact h  -- and so does LINK
  · exact B.procReaddir_keeps s c args h
  · exact B.procReaddirplus_keeps s c args h
  · exact B.withObjAttr_keeps s c args _ h
  · exact B.withObjAttr_keeps s c args _ h
  · exact B.withObjAttr_keeps s c args _ h
  · exact B.procCommit_keeps s c args h
  · exact h

theorem handleMount_keeps (s : St) (c : Ctx) (proc : Nat) (args : Bytes) (h : I s) : I (handleMount s c proc args).1 := by
  fun_cases handleMount s c proc args
  case case2 => exact B.procMnt_keeps s c args h  -- MNT; the other procedures leave the state alone
  all_goals exact h

theorem handle_keeps (s : St) (c : Ctx) (prog vers proc : Nat) (args : Bytes) (h : I s) :
    I (handle s c prog vers proc args).1 := by
  fun_cases handle s c prog vers proc args
  · exact h
  · exact B.handleMount_keeps s c proc args h
  · exact h
  · exact B.handleNfs_keeps s c proc args h
  · exact h

end Blocks

structure Req where
  ctx : Ctx
  prog : Nat
  vers : Nat
  proc : Nat
  args : Bytes

def runReqs (s : St) : List Req → St
  | [] => s
  | r :: rs => runReqs (handle s r.ctx r.prog r.vers r.proc r.args).1 rs

theorem Blocks.runReqs_keeps {I : St → Prop} (B : Blocks I) (s : St) (rs : List Req) (h : I s) : I (runReqs s rs) := by
  induction rs generalizing s with
  | nil => exact h
  | cons r rs ih => exact ih _ (B.handle_keeps s r.ctx r.prog r.vers r.proc r.args h)

end Server
end Absnfs
