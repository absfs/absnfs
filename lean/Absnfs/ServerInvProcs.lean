/-
  ServerInvProcs: every procedure keeps `CInv` — in particular the attribute cache stays coherent with the
  backend across the procedures that change the backend (C02: "the server's caches never hide the effect of a
  mutation the server itself completed").

  `CInv` is kept by every step of `Blocks` (`cinv_blocks`): by the read-side blocks on clean paths (`ServerInv`), by a
  backend change because what Lstat shows changed only at paths whose cache entries the operation dropped
  (`cinv_acInv_at`, `cinv_made`, `cinv_change_under`). `ServerKeeps` turns that into every operation, procedure, request
  and history.
-/
import Absnfs.ServerInv
import Absnfs.ServerKeeps
import Absnfs.FsRename
namespace Absnfs
namespace Server

theorem cinv_change_at {s s2 : St} (h : CInv s) {p : Bytes} (hp : CleanPath p) {g : Option Fs.Entry → Option Fs.Entry}
    (hu : Fs.Upd s.fs (fsPath p) g s2.fs) (hhs : s2.hs = s.hs) (hlru : Lru.Inv s2.ac)
    (hsub : ∀ e ∈ s2.ac.entries, e ∈ s.ac.entries ∧ e.key ≠ p)
    (hcfg : s2.cfg = s.cfg := by rfl) (hdci : DcI s2.dc := by dci_tac) : CInv s2 := by
  refine cinv_step h hhs (hu.wf h.wf) hlru ?_ hcfg hdci
  intro e he
  obtain ⟨hm, hk⟩ := hsub e he
  exact ⟨hm, hu.ne _ fun heq => hk (fsPath_inj (h.keys e hm) hp heq)⟩

theorem cinv_acInv_at {s : St} (h : CInv s) {p : Bytes} (hp : CleanPath p) {fs1 : Fs.T} {g : Option Fs.Entry → Option Fs.Entry}
    (hu : Fs.Upd s.fs (fsPath p) g fs1) : CInv (acInv { s with fs := fs1 } p) :=
  cinv_change_at h hp hu rfl (Lru.inv_invalidate h.lru p) fun _ he => Lru.invalidate_mem h.lru he

theorem Unseen.cinv {s s' : St} (u : Unseen s s') (h : CInv s) : CInv s' :=
  cinv_step h u.hs (u.wf h.wf) (u.ac ▸ h.lru) (fun _ he => ⟨u.ac ▸ he, u.view _⟩) u.cfg (u.dc ▸ h.dci)

theorem invalidateForNew_sub {s : St} (hI : Lru.Inv s.ac) (dir p : Bytes) :
    Lru.Inv (invalidateForNew s dir p).ac ∧
    ∀ e ∈ (invalidateForNew s dir p).ac.entries, e ∈ s.ac.entries ∧ e.key ≠ p := by
  have h2 := Lru.inv_invalidateNegativeInDir (Lru.inv_invalidate hI dir) dir
  refine ⟨Lru.inv_invalidate h2 p, fun e he => ?_⟩
  obtain ⟨m1, k1⟩ := Lru.invalidate_mem h2 he
  exact ⟨(Lru.invalidate_mem hI (Lru.invalidateNegativeInDir_mem m1)).1, k1⟩

theorem cinv_made {s : St} (h : CInv s) {fs1 : Fs.T} {p : Bytes} (hp : CleanPath p) {g : Option Fs.Entry → Option Fs.Entry}
    (hu : Fs.Upd s.fs (fsPath p) g fs1) (dir : Bytes) :
    CInv (invalidateForNew { s with fs := fs1 } dir p) :=
  have hsub := invalidateForNew_sub (s := { s with fs := fs1 }) h.lru dir p
  cinv_change_at h hp hu rfl hsub.1 hsub.2

theorem cinv_change_under {s s2 : St} (h : CInv s) {p1 p2 : Bytes} (hp1 : CleanPath p1) (hp2 : CleanPath p2)
    (hw : Fs.WF s2.fs)
    (hview : ∀ q, ¬ fsPath p1 <+: q → ¬ fsPath p2 <+: q → Fs.viewAt s2.fs q = Fs.viewAt s.fs q)
    (hhs : s2.hs = s.hs) (hlru : Lru.Inv s2.ac)
    (hsub : ∀ e ∈ s2.ac.entries, e ∈ s.ac.entries ∧ Lru.underPrefix e.key p1 = false ∧ Lru.underPrefix e.key p2 = false)
    (hcfg : s2.cfg = s.cfg := by rfl) (hdci : DcI s2.dc := by dci_tac) : CInv s2 := by
  refine cinv_step h hhs hw hlru ?_ hcfg hdci
  intro e he
  obtain ⟨hm, hk1, hk2⟩ := hsub e he
  have hkc := h.keys e hm
  refine ⟨hm, hview _ (fun hpre => ?_) (fun hpre => ?_)⟩
  · rw [underPrefix_of_prefix hp1 hkc hpre] at hk1; cases hk1
  · rw [underPrefix_of_prefix hp2 hkc hpre] at hk2; cases hk2

theorem renameOp_cinv {s2 s3 : St} {d1 d2 : Node} {n1 n2 : Bytes} (heq : renameOp s2 d1 n1 d2 n2 = .ok s3) (h : CInv s2)
    (hd1 : CleanPath d1.path) (hd2 : CleanPath d2.path) (hn1 : NoSep n1) (hn2 : NoSep n2) : CInv s3 := by
  obtain ⟨fs1, hrn, rfl⟩ := renameOp_ok heq
  obtain ⟨hw1, hview⟩ := Fs.rename_frame hrn h.wf
  -- after the two prefix invalidations the cache is as `cinv_change_under` wants it; the rest only removes entries
  let t : St := acInvPrefix (acInvPrefix { s2 with fs := fs1 } (joinName d1.path n1)) (joinName d2.path n2)
  have ht : CInv t :=
    cinv_change_under h (.child _ _ hd1 hn1) (.child _ _ hd2 hn2) hw1 hview rfl
      (Lru.inv_invalidatePrefix (Lru.inv_invalidatePrefix h.lru _) _)
      (fun e he =>
        have e1 := Lru.invalidatePrefix_mem he
        have e0 := Lru.invalidatePrefix_mem e1.1
        ⟨e0.1, e0.2, e1.2⟩) rfl h.dci
  exact dcInvPrefix_cinv (dcInvPrefix_cinv (dcInv_cinv (dcInv_cinv
    (acInvNegIn_cinv (acInvNegIn_cinv (acInv_cinv (acInv_cinv ht _) _) _) _) _) _) _) _

theorem cinv_blocks : Blocks CInv where
  clean := CInv.hcl
  getAttr h hnc hg := getAttr_cinv hg h hnc
  lookupPath h hp hl := lookupPath_cinv hl h hp
  allocate node h hp := allocate_cinv h node hp
  readDir h hnc hrd := readDir_cinv hrd h hnc
  refreshEach now _ h hl := refreshEach_cinv h now hl
  wf := CInv.wf
  unseen u h := u.cinv h
  acInv p h := acInv_cinv h p
  dcInv p h := dcInv_cinv h p
  upd h hp hu _ := cinv_acInv_at h hp hu
  make h hd hn hu := cinv_made h (.child _ _ hd hn) hu _
  renameOp h hd1 hd2 hn1 hn2 hop := renameOp_cinv hop h hd1 hd2 hn1 hn2

theorem procReaddir_cinv (s : St) (c : Ctx) (args : Bytes) (h : CInv s) : CInv (procReaddir s c args).1 :=
  cinv_blocks.procReaddir_keeps s c args h

/-- C02: whatever the request — any program, version, procedure, argument bytes, caller and time — the server
    stays in a state whose attribute cache agrees with the backend. -/
theorem handle_cinv (s : St) (c : Ctx) (prog vers proc : Nat) (args : Bytes) (h : CInv s) :
    CInv (handle s c prog vers proc args).1 := cinv_blocks.handle_keeps s c prog vers proc args h

theorem runReqs_cinv (s : St) (rs : List Req) (h : CInv s) : CInv (runReqs s rs) := cinv_blocks.runReqs_keeps s rs h

end Server
end Absnfs
