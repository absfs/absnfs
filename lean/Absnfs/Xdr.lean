/-
  Xdr: XDR opaque/string, NFS3 file handle and sattr3 codecs.
  Models rpc_types.go: xdrEncodeString, xdrDecodeString, xdrEncodeFileHandle,
  xdrDecodeFileHandle; nfs_proc_handlers.go: decodeSattr3.
  Limits are parameters; Props instantiate them with the constants in Gen.
  `decOpaque`, `decString` and `decFh` (like `decU32`, `decU64` in Bytes) each have one exact characterisation
  `dec bs = some (v, r) ↔ …`, from which round trip, consumption and the refusal of proper prefixes follow.
-/
import Absnfs.Bytes
namespace Absnfs

/-- io.ReadFull of exactly `n` bytes. -/
def take? (n : Nat) (bs : Bytes) : Option (Bytes × Bytes) :=
  if n ≤ bs.length then some (bs.take n, bs.drop n) else none

theorem take?_append (s rest : Bytes) : take? s.length (s ++ rest) = some (s, rest) := by
  simp [take?]

theorem take?_zeros (n : Nat) (rest : Bytes) : take? n (zeros n ++ rest) = some (zeros n, rest) := by
  simpa using take?_append (zeros n) rest

theorem take?_some {n : Nat} {bs a r : Bytes} (h : take? n bs = some (a, r)) :
    bs = a ++ r ∧ a.length = n := by
  unfold take? at h
  split at h
  · simp only [Option.some.injEq, Prod.mk.injEq] at h
    obtain ⟨rfl, rfl⟩ := h
    exact ⟨(List.take_append_drop n bs).symm, List.length_take_of_le ‹_›⟩
  · cases h

/-- xdrEncodeString / XDR opaque<>: length word, data, zero padding to a 4-byte boundary. -/
def encOpaque (s : Bytes) : Bytes := encU32 s.length ++ s ++ zeros (pad4 s.length)

/-- Variable-length opaque decoder with a length limit checked *before* any read of that size. -/
def decOpaque (maxLen : Nat) (bs : Bytes) : Option (Bytes × Bytes) :=
  match decU32 bs with
  | none => none
  | some (len, r) =>
    if len > maxLen then none else
    match take? len r with
    | none => none
    | some (data, r2) =>
      match take? (pad4 len) r2 with
      | none => none
      | some (_, r3) => some (data, r3)

/-- Sizes of the buffers the decoder allocates (`make([]byte, n)`), in order. -/
def decOpaqueAllocs (maxLen : Nat) (bs : Bytes) : List Nat :=
  match decU32 bs with
  | none => []
  | some (len, _) => if len > maxLen then [] else [len, pad4 len]

/-- xdrDecodeString: an opaque that must not contain NUL. -/
def decString (maxLen : Nat) (bs : Bytes) : Option (Bytes × Bytes) :=
  match decOpaque maxLen bs with
  | none => none
  | some (s, r) => if (0 : UInt8) ∈ s then none else some (s, r)

theorem encOpaque_length (s : Bytes) : (encOpaque s).length = 4 + s.length + pad4 s.length := by
  simp [encOpaque]; omega

/-- `∃ p`, not zeros: the padding bytes are counted, not looked at. -/
theorem decOpaque_eq_some_iff {maxLen : Nat} {bs s r : Bytes} :
    decOpaque maxLen bs = some (s, r) ↔
      ∃ p : Bytes, p.length = pad4 s.length ∧ bs = encU32 s.length ++ s ++ p ++ r ∧
        s.length ≤ maxLen ∧ s.length < 4294967296 := by
  constructor
  · intro h
    unfold decOpaque at h
    split at h; · cases h
    rename_i len r1 h1
    split at h; · cases h
    split at h; · cases h
    rename_i data r2 h2
    split at h; · cases h
    rename_i p r3 h3
    simp only [Option.some.injEq, Prod.mk.injEq] at h
    obtain ⟨rfl, rfl⟩ := h
    obtain ⟨h32, rfl⟩ := decU32_eq_some_iff.1 h1
    obtain ⟨rfl, rfl⟩ := take?_some h2
    obtain ⟨rfl, hp⟩ := take?_some h3
    exact ⟨p, hp, by simp only [List.append_assoc], Nat.not_lt.1 ‹_›, h32⟩
  · rintro ⟨p, hp, rfl, hl, h32⟩
    simp [decOpaque, decU32_encU32 _ h32, Nat.not_lt.2 hl, take?_append, ← hp]

theorem decOpaque_encOpaque (maxLen : Nat) (s rest : Bytes)
    (hl : s.length ≤ maxLen) (h32 : s.length < 4294967296) :
    decOpaque maxLen (encOpaque s ++ rest) = some (s, rest) :=
  decOpaque_eq_some_iff.2 ⟨zeros _, zeros_length _, rfl, hl, h32⟩

theorem decOpaque_consumes {maxLen : Nat} {bs s r : Bytes} (h : decOpaque maxLen bs = some (s, r)) :
    bs.length = 4 + s.length + pad4 s.length + r.length := by
  obtain ⟨p, hp, rfl, _, _⟩ := decOpaque_eq_some_iff.1 h
  simp [hp]; omega

theorem decOpaque_append {maxLen : Nat} {bs s r : Bytes} (h : decOpaque maxLen bs = some (s, r)) (ext : Bytes) :
    decOpaque maxLen (bs ++ ext) = some (s, r ++ ext) := by
  obtain ⟨p, hp, rfl, hl, h32⟩ := decOpaque_eq_some_iff.1 h
  exact decOpaque_eq_some_iff.2 ⟨p, hp, by simp only [List.append_assoc], hl, h32⟩

theorem decOpaque_prefix (maxLen : Nat) (s : Bytes) (k : Nat) (hk : k < (encOpaque s).length)
    (hl : s.length ≤ maxLen) (h32 : s.length < 4294967296) :
    decOpaque maxLen ((encOpaque s).take k) = none := by
  cases hd : decOpaque maxLen ((encOpaque s).take k) with
  | none => rfl
  | some v =>
    -- with the cut-off part put back the decoder reads the whole encoding, so nothing had been cut off
    have h := decOpaque_append hd ((encOpaque s).drop k)
    have full := decOpaque_encOpaque maxLen s [] hl h32
    rw [List.append_nil] at full
    rw [List.take_append_drop, full] at h
    simp only [Option.some.injEq, Prod.mk.injEq, List.nil_eq, List.append_eq_nil_iff, List.drop_eq_nil_iff] at h
    omega

theorem decOpaque_oversize (maxLen n : Nat) (rest : Bytes) (h : maxLen < n) (h32 : n < 4294967296) :
    decOpaque maxLen (encU32 n ++ rest) = none ∧ decOpaqueAllocs maxLen (encU32 n ++ rest) = [] := by
  simp [decOpaque, decOpaqueAllocs, decU32_encU32 _ h32, h]

theorem decOpaqueAllocs_bounded (maxLen : Nat) (bs : Bytes) :
    ∀ a ∈ decOpaqueAllocs maxLen bs, a ≤ maxLen ∨ a < 4 := by
  intro a ha
  cases h : decU32 bs with
  | none => rw [decOpaqueAllocs, h] at ha; cases ha
  | some p =>
    simp only [decOpaqueAllocs, h, List.mem_ite_nil_left, List.mem_cons, List.not_mem_nil, or_false] at ha
    obtain ⟨hle, rfl | rfl⟩ := ha
    · exact .inl (Nat.not_lt.1 hle)
    · exact .inr (pad4_lt _)

theorem decString_eq_some_iff {maxLen : Nat} {bs s r : Bytes} :
    decString maxLen bs = some (s, r) ↔ decOpaque maxLen bs = some (s, r) ∧ (0 : UInt8) ∉ s := by
  unfold decString
  cases decOpaque maxLen bs <;> grind

theorem decString_encOpaque (maxLen : Nat) (s rest : Bytes)
    (hl : s.length ≤ maxLen) (h32 : s.length < 4294967296) (hn : (0 : UInt8) ∉ s) :
    decString maxLen (encOpaque s ++ rest) = some (s, rest) :=
  decString_eq_some_iff.2 ⟨decOpaque_encOpaque maxLen s rest hl h32, hn⟩

theorem decString_nul (maxLen : Nat) (s rest : Bytes) (hn : (0 : UInt8) ∈ s)
    (hl : s.length ≤ maxLen) (h32 : s.length < 4294967296) :
    decString maxLen (encOpaque s ++ rest) = none := by
  simp [decString, decOpaque_encOpaque, *]

/-! File handles: opaque<64> on the wire, this server only issues and accepts length 8. -/

def encFh (h : Nat) : Bytes := encU32 8 ++ encU64 h

/-- xdrDecodeFileHandle. `fhMax` = 64, `fhLen` = 8 (from Gen). The discard read for other
    lengths is modelled as failure (the caller always aborts on error). -/
def decFh (fhMax fhLen : Nat) (bs : Bytes) : Option (Nat × Bytes) :=
  match decU32 bs with
  | none => none
  | some (len, r) =>
    if len > fhMax then none
    else if len ≠ fhLen then none
    else decU64 r

/-- what is left in the stream after xdrDecodeFileHandle returned (value or refusal): a refused wrong-size handle
    (length ≤ the maximum, ≠ 8) is skipped with its padding so that the stream stays in sync; an over-limit length
    is refused before anything more is read; a short stream is consumed to its end (io.ReadFull) -/
def decFhRest (fhMax fhLen : Nat) (bs : Bytes) : Bytes :=
  match decU32 bs with
  | none => []
  | some (len, r) =>
    if len > fhMax then r
    else if len ≠ fhLen then (if len > 0 then r.drop ((len + 3) / 4 * 4) else r)
    else r.drop 8

def decFhAllocs (fhMax fhLen : Nat) (bs : Bytes) : List Nat :=
  match decU32 bs with
  | none => []
  | some (len, _) =>
    if len > fhMax then []
    else if len ≠ fhLen then (if len > 0 then [(len + 3) / 4 * 4] else [])
    else []

theorem decFh_eq_some_iff {fhMax : Nat} {bs r : Bytes} {h : Nat} :
    decFh fhMax 8 bs = some (h, r) ↔ 8 ≤ fhMax ∧ h < 18446744073709551616 ∧ bs = encFh h ++ r := by
  constructor
  · intro hd
    unfold decFh at hd
    split at hd; · cases hd
    rename_i len r1 h1
    split at hd; · cases hd
    rename_i hmax
    split at hd; · cases hd
    rename_i hlen
    obtain rfl : len = 8 := Decidable.not_not.1 hlen
    obtain ⟨_, rfl⟩ := decU32_eq_some_iff.1 h1
    obtain ⟨h64, rfl⟩ := decU64_eq_some_iff.1 hd
    exact ⟨Nat.not_lt.1 hmax, h64, (List.append_assoc ..).symm⟩
  · rintro ⟨hm, h64, rfl⟩
    simp [decFh, encFh, decU32_encU32, decU64_encU64, *]

theorem decFh_encFh (fhMax : Nat) (h : Nat) (rest : Bytes) (hm : 8 ≤ fhMax) (h64 : h < 18446744073709551616) :
    decFh fhMax 8 (encFh h ++ rest) = some (h, rest) :=
  decFh_eq_some_iff.2 ⟨hm, h64, rfl⟩

theorem decFh_refused (fhMax fhLen : Nat) (data rest : Bytes) (hm : fhMax < 4294967296)
    (hl : data.length ≤ fhMax) (hne : data.length ≠ fhLen) :
    decFh fhMax fhLen (encOpaque data ++ rest) = none ∧
    decFhRest fhMax fhLen (encOpaque data ++ rest) = rest := by
  simp only [decFh, decFhRest, encOpaque, List.append_assoc, decU32_encU32 _ (Nat.lt_of_le_of_lt hl hm),
    if_neg (Nat.not_lt.2 hl), if_pos hne, pad4_round, true_and]
  split
  · rw [← List.append_assoc, List.drop_left' (by simp)]
  · -- an empty handle has no padding either: nothing to skip
    obtain rfl := List.eq_nil_of_length_eq_zero (by omega : data.length = 0)
    rfl

theorem decFhAllocs_bounded (fhMax fhLen : Nat) (bs : Bytes) :
    ∀ a ∈ decFhAllocs fhMax fhLen bs, a ≤ fhMax + 3 := by
  intro a ha
  cases h : decU32 bs with
  | none => rw [decFhAllocs, h] at ha; cases ha
  | some p =>
    -- the one allocation is the skip of a wrong-size handle within the limit, rounded up to a multiple of 4
    simp only [decFhAllocs, h, List.mem_ite_nil_left, List.mem_ite_nil_right, List.mem_singleton] at ha
    obtain ⟨hle, _, _, rfl⟩ := ha
    exact Nat.le_trans (Nat.div_mul_le_self ..) (by omega)

/-! sattr3 (RFC 1813 §2.3.4) as decodeSattr3 reads it. -/

structure Sattr3 where
  mode  : Option Nat := none
  uid   : Option Nat := none
  gid   : Option Nat := none
  size  : Option Nat := none
  /-- 0 = don't change, 1 = server time, 2 = client time (sec, nsec); other discriminants kept verbatim -/
  atimeHow : Nat := 0
  atime : Nat × Nat := (0, 0)
  mtimeHow : Nat := 0
  mtime : Nat × Nat := (0, 0)
  deriving Repr, DecidableEq

def encOptU32 : Option Nat → Bytes
  | none => encU32 0
  | some v => encU32 1 ++ encU32 v

def encOptU64 : Option Nat → Bytes
  | none => encU32 0
  | some v => encU32 1 ++ encU64 v

def encTimeHow (how : Nat) (t : Nat × Nat) : Bytes :=
  if how = 2 then encU32 2 ++ encU32 t.1 ++ encU32 t.2 else encU32 how

def encSattr3 (s : Sattr3) : Bytes :=
  encOptU32 s.mode ++ encOptU32 s.uid ++ encOptU32 s.gid ++ encOptU64 s.size ++
  encTimeHow s.atimeHow s.atime ++ encTimeHow s.mtimeHow s.mtime

/-- flag word then value if flag ≠ 0 -/
def decOptU32 (bs : Bytes) : Option (Option Nat × Bytes) :=
  match decU32 bs with
  | none => none
  | some (flag, r) =>
    if flag = 0 then some (none, r) else
    match decU32 r with
    | none => none
    | some (v, r') => some (some v, r')

def decOptU64 (bs : Bytes) : Option (Option Nat × Bytes) :=
  match decU32 bs with
  | none => none
  | some (flag, r) =>
    if flag = 0 then some (none, r) else
    match decU64 r with
    | none => none
    | some (v, r') => some (some v, r')

def decTimeHow (bs : Bytes) : Option (Nat × (Nat × Nat) × Bytes) :=
  match decU32 bs with
  | none => none
  | some (how, r) =>
    if how = 2 then
      match decU32 r with
      | none => none
      | some (s, r1) =>
        match decU32 r1 with
        | none => none
        | some (ns, r2) => some (2, (s, ns), r2)
    else some (how, (0, 0), r)

def decSattr3 (bs : Bytes) : Option (Sattr3 × Bytes) :=
  match decOptU32 bs with
  | none => none
  | some (mode, r1) =>
  match decOptU32 r1 with
  | none => none
  | some (uid, r2) =>
  match decOptU32 r2 with
  | none => none
  | some (gid, r3) =>
  match decOptU64 r3 with
  | none => none
  | some (size, r4) =>
  match decTimeHow r4 with
  | none => none
  | some (ah, at_, r5) =>
  match decTimeHow r5 with
  | none => none
  | some (mh, mt, r6) =>
    some ({ mode := mode, uid := uid, gid := gid, size := size,
            atimeHow := ah, atime := at_, mtimeHow := mh, mtime := mt }, r6)

/-- Well-formed sattr3 values: every field fits its wire width; unused time fields are zero;
    the "set" discriminants the encoder emits are 0/1 for the optional fields. -/
def Sattr3.WF (s : Sattr3) : Prop :=
  (∀ v, s.mode = some v → v < 4294967296) ∧ (∀ v, s.uid = some v → v < 4294967296) ∧
  (∀ v, s.gid = some v → v < 4294967296) ∧ (∀ v, s.size = some v → v < 18446744073709551616) ∧
  s.atimeHow < 4294967296 ∧ s.mtimeHow < 4294967296 ∧
  s.atime.1 < 4294967296 ∧ s.atime.2 < 4294967296 ∧ s.mtime.1 < 4294967296 ∧ s.mtime.2 < 4294967296 ∧
  (s.atimeHow ≠ 2 → s.atime = (0, 0)) ∧ (s.mtimeHow ≠ 2 → s.mtime = (0, 0))

theorem decOptU32_enc (o : Option Nat) (rest : Bytes) (h : ∀ v, o = some v → v < 4294967296) :
    decOptU32 (encOptU32 o ++ rest) = some (o, rest) := by
  cases o with
  | none => simp [decOptU32, encOptU32, decU32_encU32]
  | some v => simp [decOptU32, encOptU32, decU32_encU32, h v rfl]

theorem decOptU64_enc (o : Option Nat) (rest : Bytes) (h : ∀ v, o = some v → v < 18446744073709551616) :
    decOptU64 (encOptU64 o ++ rest) = some (o, rest) := by
  cases o with
  | none => simp [decOptU64, encOptU64, decU32_encU32]
  | some v => simp [decOptU64, encOptU64, decU32_encU32, decU64_encU64, h v rfl]

theorem decTimeHow_enc (how : Nat) (t : Nat × Nat) (rest : Bytes) (hh : how < 4294967296)
    (h1 : t.1 < 4294967296) (h2 : t.2 < 4294967296) (hz : how ≠ 2 → t = (0, 0)) :
    decTimeHow (encTimeHow how t ++ rest) = some (how, t, rest) := by
  by_cases h : how = 2
  · simp [decTimeHow, encTimeHow, decU32_encU32, *]
  · simp [decTimeHow, encTimeHow, decU32_encU32, hz h, *]

theorem decSattr3_encSattr3 (s : Sattr3) (rest : Bytes) (h : s.WF) :
    decSattr3 (encSattr3 s ++ rest) = some (s, rest) := by
  obtain ⟨h1, h2, h3, h4, h5, h6, h7, h8, h9, h10, h11, h12⟩ := h
  simp [decSattr3, encSattr3, decOptU32_enc _ _ h1, decOptU32_enc _ _ h2, decOptU32_enc _ _ h3,
    decOptU64_enc _ _ h4, decTimeHow_enc _ _ _ h5 h7 h8 h11, decTimeHow_enc _ _ _ h6 h9 h10 h12]

end Absnfs
