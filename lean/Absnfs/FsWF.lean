/-
  FsWF: well-formedness of the backing-filesystem model (every stored path's parent is a stored directory, no path is
  stored twice) and what it buys: resolution (`walk`, hence Lstat) is just a map lookup. The map updates that the
  operations make keep it (`wf_set`, `wf_del_leaf`). `children` lists what is stored one component below a path
  (`mem_children`), which is how Remove's emptiness test makes its path a leaf.
-/
import Absnfs.FsLemmas
namespace Absnfs
namespace Fs

def Orphanless (fs : T) : Prop :=
  ∀ q e, get fs q = some e → q ≠ [] → ∃ pe, get fs q.dropLast = some pe ∧ pe.kind = .dir

def NoDupKeys (fs : T) : Prop := (fs.ents.map (·.1)).Nodup

def WF (fs : T) : Prop := Orphanless fs ∧ NoDupKeys fs

theorem nodup_set {fs : T} (h : NoDupKeys fs) (p : Path) (e : Entry) : NoDupKeys (set fs p e) := by
  unfold NoDupKeys set
  simp only [List.map_cons, List.nodup_cons]
  refine ⟨?_, h.sublist ((List.filter_sublist).map _)⟩
  intro hm
  obtain ⟨x, hx, hxp⟩ := List.mem_map.mp hm
  have := (List.mem_filter.mp hx).2
  simp [hxp] at this

theorem nodup_del {fs : T} (h : NoDupKeys fs) (p : Path) : NoDupKeys (del fs p) := by
  unfold NoDupKeys del
  exact h.sublist ((List.filter_sublist).map _)

theorem wf_empty (m : Nat) : WF (empty m) := by
  refine ⟨?_, by simp [NoDupKeys, empty]⟩
  intro q e h hne
  unfold get empty at h
  simp only [List.find?_cons, List.find?_nil] at h
  split at h
  · next hq => exact absurd (beq_iff_eq.mp hq).symm hne
  · cases h

theorem prefix_dropLast {α : Type} {a b : List α} (h : a <+: b) (hne : a ≠ b) : a <+: b.dropLast := by
  obtain ⟨r, rfl⟩ := h
  have hrne : r ≠ [] := fun h => hne (by rw [h, List.append_nil])
  rw [List.dropLast_append_of_ne_nil hrne]
  exact List.prefix_append a r.dropLast

theorem prefix_is_dir {fs : T} (hw : WF fs) {p q : Path} {e : Entry} (hg : get fs q = some e) (hp : p <+: q) :
    ∃ pe, get fs p = some pe ∧ (p ≠ q → pe.kind = .dir) := by
  by_cases hpq : p = q
  · exact ⟨e, hpq ▸ hg, fun h => absurd hpq h⟩
  · -- `p` is a prefix of the parent of `q`, which is a stored directory
    have hq : q ≠ [] := fun h => hpq (List.prefix_nil.mp (h ▸ hp) ▸ h.symm)
    obtain ⟨pe', hpe', hd'⟩ := hw.1 q e hg hq
    obtain ⟨pe, hpe, hd⟩ := prefix_is_dir hw hpe' (prefix_dropLast hp hpq)
    refine ⟨pe, hpe, fun _ => ?_⟩
    by_cases h : p = q.dropLast
    · rw [← h, hpe] at hpe'; cases hpe'; exact hd'
    · exact hd h
termination_by q.length
decreasing_by rw [List.length_dropLast]; exact Nat.sub_lt (List.length_pos_iff.mpr hq) Nat.one_pos

theorem walkFrom_of_get {fs : T} (hw : WF fs) : ∀ (cs : List Name) (pre : Path) {e : Entry},
    get fs (pre ++ cs) = some e → walkFrom fs pre cs = .ok e
  | [], pre, e, hg => by rw [List.append_nil] at hg; simp only [walkFrom, hg]
  | c :: cs, pre, e, hg => by
    have hg' : get fs (pre ++ [c] ++ cs) = some e := by simpa using hg
    obtain ⟨cur, hcur, hd⟩ := prefix_is_dir hw hg (List.prefix_append pre (c :: cs))
    obtain ⟨x, hx, _⟩ := prefix_is_dir hw hg' (List.prefix_append (pre ++ [c]) cs)
    simp only [walkFrom, hcur, hx, hd (by simp), ne_eq, not_true_eq_false, if_false]
    exact walkFrom_of_get hw cs (pre ++ [c]) hg'

theorem walk_eq_of_get {fs : T} (hw : WF fs) {q : Path} {e : Entry} (hg : get fs q = some e) : walk fs q = .ok e :=
  walkFrom_of_get hw q [] hg

theorem get_none_of_walk_err {fs : T} (hw : WF fs) {q : Path} {err : Errno} (h : walk fs q = .error err) : get fs q = none := by
  cases hg : get fs q with
  | none => rfl
  | some e => rw [walk_eq_of_get hw hg] at h; cases h

theorem lstat_of_walk {fs : T} {p : Path} {e : Entry} (h : walk fs p = .ok e) : lstat fs p = .ok (infoOf e) := by
  unfold lstat; rw [h]; rfl

theorem lstat_of_walk_err {fs : T} {p : Path} {err : Errno} (h : walk fs p = .error err) : lstat fs p = .error err := by
  unfold lstat; rw [h]; rfl

theorem lstat_ok_walk {fs : T} {p : Path} {i : Info} (h : lstat fs p = .ok i) : ∃ e, walk fs p = .ok e ∧ infoOf e = i := by
  cases hw : walk fs p with
  | error e => rw [lstat_of_walk_err hw] at h; cases h
  | ok e => rw [lstat_of_walk hw] at h; cases h; exact ⟨e, rfl, rfl⟩

theorem lstat_err_walk {fs : T} {p : Path} {err : Errno} (h : lstat fs p = .error err) : walk fs p = .error err := by
  cases hw : walk fs p with
  | error e => rw [lstat_of_walk_err hw] at h; cases h; rfl
  | ok e => rw [lstat_of_walk hw] at h; cases h

theorem lstat_ok_view {fs : T} {q : Path} {i : Info} (h : lstat fs q = .ok i) : viewAt fs q = some (i.kind, i.size, i.perm) := by
  obtain ⟨e, hw, rfl⟩ := lstat_ok_walk h
  unfold viewAt
  rw [walk_ok_get hw]; rfl

theorem lstat_of_view {fs : T} (hw : WF fs) {q : Path} {k : Kind} {sz pm : Nat} (h : viewAt fs q = some (k, sz, pm)) :
    ∃ i, lstat fs q = .ok i ∧ i.kind = k ∧ i.size = sz ∧ i.perm = pm := by
  unfold viewAt at h
  cases hg : get fs q with
  | none => rw [hg] at h; cases h
  | some e =>
    rw [hg] at h
    cases h
    exact ⟨infoOf e, lstat_of_walk (walk_eq_of_get hw hg), rfl, rfl, rfl⟩

theorem lstat_err_view {fs : T} (hw : WF fs) {q : Path} {err : Errno} (h : lstat fs q = .error err) : viewAt fs q = none := by
  unfold viewAt
  rw [get_none_of_walk_err hw (lstat_err_walk h)]; rfl

theorem lstat_err_of_view {fs : T} {q : Path} (h : viewAt fs q = none) : ∃ err, lstat fs q = .error err := by
  cases hw : walk fs q with
  | error err => exact ⟨err, lstat_of_walk_err hw⟩
  | ok e => rw [viewAt, walk_ok_get hw] at h; cases h

theorem wf_nextIno {fs : T} (hw : WF fs) (n : Nat) : WF { fs with nextIno := n } := ⟨hw.1, hw.2⟩

theorem wf_set {fs : T} (hw : WF fs) {p : Path} {e : Entry}
    (hpar : p ≠ [] → ∃ pe, get fs p.dropLast = some pe ∧ pe.kind = .dir)
    (hdir : ∀ e0, get fs p = some e0 → e0.kind = .dir → e.kind = .dir) : WF (set fs p e) := by
  refine ⟨?_, nodup_set hw.2 p e⟩
  intro q x hq hne
  obtain ⟨pe, hpe, hd⟩ : ∃ pe, get fs q.dropLast = some pe ∧ pe.kind = .dir := by
    rw [get_set] at hq
    split at hq
    · next hqp => exact hqp ▸ hpar (hqp ▸ hne)
    · exact hw.1 q x hq hne
  rw [get_set]
  split
  · next hdp => exact ⟨e, rfl, hdir pe (hdp ▸ hpe) hd⟩
  · exact ⟨pe, hpe, hd⟩

theorem wf_set_samekind {fs : T} (hw : WF fs) {p : Path} {e0 e : Entry} (h0 : get fs p = some e0) (hk : e.kind = e0.kind) :
    WF (set fs p e) :=
  wf_set hw (hw.1 p e0 h0) fun e1 h1 hd => by rw [h0] at h1; cases h1; exact hk.trans hd

theorem wf_del_leaf {fs : T} (hw : WF fs) {p : Path} (hleaf : ∀ c, get fs (p ++ [c]) = none) : WF (del fs p) := by
  refine ⟨?_, nodup_del hw.2 p⟩
  intro q x hq hqne
  rw [get_del] at hq
  split at hq
  · cases hq
  · obtain ⟨pe, hpe, hd⟩ := hw.1 q x hq hqne
    rw [get_del]
    split
    · next hdp =>
      rw [← List.dropLast_concat_getLast hqne, hdp, hleaf] at hq
      cases hq
    · exact ⟨pe, hpe, hd⟩

theorem mem_of_get {fs : T} {q : Path} {e : Entry} (h : get fs q = some e) : (q, e) ∈ fs.ents := by
  unfold get at h
  obtain ⟨y, hf, rfl⟩ := Option.map_eq_some_iff.mp h
  have hy : y.1 = q := by simpa using List.find?_some hf
  rw [← hy]
  exact List.mem_of_find?_eq_some hf

/-- the left side is the test in `children` -/
theorem child_path_iff (p q : Path) : q.length = p.length + 1 ∧ q.take p.length = p ↔ q = p ++ [q.getLast!] := by
  constructor
  · intro ⟨hl, ht⟩
    have h1 := List.take_append_drop p.length q
    rw [ht] at h1
    match hd : q.drop p.length, (show (q.drop p.length).length = 1 by simp [hl]) with
    | [y], _ => rw [hd] at h1; rw [← h1]; simp
  · intro h
    rw [h]; simp

theorem mem_children {fs : T} {p : Path} {n : Name} {e : Entry} : (n, e) ∈ children fs p ↔ (p ++ [n], e) ∈ fs.ents := by
  unfold children
  rw [List.mem_filterMap]
  constructor
  · rintro ⟨⟨q, e'⟩, hmem, hq⟩
    dsimp only at hq
    split at hq
    · next hc =>
      rw [(child_path_iff p q).mp hc] at hmem
      cases hq; exact hmem
    · cases hq
  · intro hmem
    refine ⟨_, hmem, ?_⟩
    have hc := (child_path_iff p (p ++ [n])).mpr (by simp)
    simp only [hc, and_self, if_true]
    simp

theorem children_ne_nil_of_get {fs : T} {p : Path} {c : Name} {x : Entry} (h : get fs (p ++ [c]) = some x) :
    children fs p ≠ [] :=
  List.ne_nil_of_mem (mem_children.mpr (mem_of_get h))

theorem leaf_of_removable {fs : T} (hw : WF fs) {p : Path} {e : Entry} (he : get fs p = some e)
    (h : ¬ (e.kind = .dir ∧ children fs p ≠ [])) : ∀ c, get fs (p ++ [c]) = none := by
  intro c
  cases hg : get fs (p ++ [c]) with
  | none => rfl
  | some x =>
    obtain ⟨pe, hpe, hd⟩ := hw.1 (p ++ [c]) x hg (by simp)
    rw [List.dropLast_concat, he] at hpe
    cases hpe
    exact absurd ⟨hd, children_ne_nil_of_get hg⟩ h

theorem child_exists {fs : T} (hw : WF fs) {q : Path} {n : Name} {x : Entry}
    (h : (n, x) ∈ children fs q) : ∃ i, lstat fs (q ++ [n]) = .ok i := by
  cases hg : get fs (q ++ [n]) with
  | some e => exact ⟨_, lstat_of_walk (walk_eq_of_get hw hg)⟩
  | none =>
    unfold get at hg
    simpa using List.find?_eq_none.mp (Option.map_eq_none_iff.mp hg) _ (mem_children.mp h)

end Fs
end Absnfs
