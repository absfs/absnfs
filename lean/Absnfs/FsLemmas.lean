/-
  FsLemmas: the flat-map view of the backing filesystem. What `set`/`del` do to `get`; resolution (`walk`) looks only
  at the entries stored at prefixes of the path; what each successful operation did, as one `set`/`del`/`moveTree`
  of the map (the `*_ok` lemmas: every later fact about an operation starts from these and the map algebra), and
  when it could not have failed.
-/
import Absnfs.Fs
namespace Absnfs
namespace Fs

theorem find?_filter_ne (l : List (Path × Entry)) (p q : Path) :
    (l.filter (·.1 != p)).find? (·.1 == q) = if q = p then none else l.find? (·.1 == q) := by
  rw [List.find?_filter]
  split
  · next h =>
    subst h
    exact List.find?_eq_none.mpr fun x _ hx => by
      rw [decide_eq_true_eq, bne_iff_ne, beq_iff_eq] at hx
      exact hx.1 hx.2
  · next h =>
    congr 1; funext x
    rw [Bool.eq_iff_iff, decide_eq_true_eq, bne_iff_ne, beq_iff_eq]
    exact ⟨fun hx => hx.2, fun hx => ⟨hx ▸ h, hx⟩⟩

theorem get_set (fs : T) (p q : Path) (e : Entry) : get (set fs p e) q = if q = p then some e else get fs q := by
  simp only [get, set, List.find?_cons, find?_filter_ne]
  by_cases h : q = p
  · simp [h]
  · have : (p == q) = false := by simpa using fun hh => h hh.symm
    simp only [this, h, if_false]

theorem get_set_same (fs : T) (p : Path) (e : Entry) : get (set fs p e) p = some e := by
  rw [get_set, if_pos rfl]

theorem get_set_other (fs : T) (p q : Path) (e : Entry) (h : q ≠ p) : get (set fs p e) q = get fs q := by
  rw [get_set, if_neg h]

theorem get_del (fs : T) (p q : Path) : get (del fs p) q = if q = p then none else get fs q := by
  simp only [get, del, find?_filter_ne]
  split <;> rfl

theorem get_nextIno (fs : T) (n : Nat) (q : Path) : get { fs with nextIno := n } q = get fs q := rfl

theorem set_set_same (fs : T) (q : Path) (a b : Entry) : set (set fs q a) q b = set fs q b := by
  unfold set
  simp [List.filter_filter]

def ownerAt (fs : T) (q : Path) : Option (Nat × Nat) := (get fs q).map fun e => (e.uid, e.gid)

def contentAt (fs : T) (q : Path) : Option (Kind × Bytes) := (get fs q).map fun e => (e.kind, e.data)

def viewAt (fs : T) (q : Path) : Option (Kind × Nat × Nat) :=
  (get fs q).map fun e => ((infoOf e).kind, (infoOf e).size, (infoOf e).perm)

theorem ownerAt_set (fs : T) (p q : Path) (e : Entry) :
    ownerAt (set fs p e) q = if q = p then some (e.uid, e.gid) else ownerAt fs q := by
  unfold ownerAt; rw [get_set]; split <;> rfl

theorem contentAt_set (fs : T) (p q : Path) (e : Entry) :
    contentAt (set fs p e) q = if q = p then some (e.kind, e.data) else contentAt fs q := by
  unfold contentAt; rw [get_set]; split <;> rfl

theorem walkFrom_ok_get {fs : T} {pre : Path} {cs : List Name} {e : Entry} (h : walkFrom fs pre cs = .ok e) :
    get fs (pre ++ cs) = some e := by
  induction cs generalizing pre with
  | nil =>
    simp only [walkFrom] at h
    split at h
    · cases h; simpa
    · cases h
  | cons c cs ih =>
    simp only [walkFrom] at h
    split at h
    · cases h
    · split at h
      · cases h
      · split at h
        · cases h
        · simpa using ih h

theorem walk_ok_get {fs : T} {p : Path} {e : Entry} (h : walk fs p = .ok e) : get fs p = some e := by
  simpa using walkFrom_ok_get (pre := []) h

theorem follow_of_walk_err {fs : T} {p : Path} {e : Errno} (h : walk fs p = .error e) : follow fs p = (p, .error e) := by
  unfold follow followFrom
  simp only [h]

theorem follow_of_walk_nonlink {fs : T} {p : Path} {e : Entry} (h : walk fs p = .ok e) (hk : e.kind ≠ .link) :
    follow fs p = (p, .ok e) := by
  unfold follow followFrom
  simp only [h, hk, if_false]

theorem followFrom_ok_get {fs : T} {fuel : Nat} {p q : Path} {e : Entry} (h : followFrom fs fuel p = (q, .ok e)) :
    get fs q = some e := by
  induction fuel generalizing p with
  | zero => cases h
  | succ n ih =>
    simp only [followFrom] at h
    split at h
    · cases h
    · next hw =>
      split at h
      · exact ih h
      · cases h; exact walk_ok_get hw

theorem follow_ok_get {fs : T} {p q : Path} {e : Entry} (h : follow fs p = (q, .ok e)) : get fs q = some e :=
  followFrom_ok_get h

theorem followFrom_err_walk {fs : T} {fuel : Nat} {p q : Path} {e : Errno} (h : followFrom fs fuel p = (q, .error e)) :
    e = .ELOOP ∨ walk fs q = .error e := by
  induction fuel generalizing p with
  | zero => cases h; exact .inl rfl
  | succ n ih =>
    simp only [followFrom] at h
    split at h
    · next hw => cases h; exact .inr hw
    · split at h
      · exact ih h
      · cases h

theorem openRead_ok {fs : T} {p q : Path} {e : Entry} :
    openRead fs p = .ok (q, e) ↔ follow fs p = (q, .ok e) := by
  unfold openRead
  split
  · next h => rw [h]; exact ⟨nofun, nofun⟩
  · next h => rw [h]; exact ⟨fun h => by cases h; rfl, fun h => by cases h; rfl⟩

theorem infoOf_size {e : Entry} (hk : e.kind ≠ .dir) : (infoOf e).size = e.data.length := by
  unfold infoOf
  split
  · exact absurd ‹_› hk
  · rfl

theorem infoOf_size_le (e : Entry) : (infoOf e).size ≤ e.data.length := by
  unfold infoOf
  split
  · exact Nat.zero_le _
  · exact Nat.le_refl _

theorem walkFrom_snoc (fs : T) (pre : Path) (cs : List Name) (c : Name) :
    walkFrom fs pre (cs ++ [c]) =
      match walkFrom fs pre cs with
      | .error e => .error e
      | .ok cur =>
        if cur.kind ≠ .dir then .error .ENOTDIR
        else match get fs (pre ++ cs ++ [c]) with
          | none => .error .ENOENT
          | some x => .ok x := by
  induction cs generalizing pre with
  | nil =>
    simp only [List.nil_append, walkFrom, List.append_nil]
    cases get fs pre with
    | none => rfl
    | some cur =>
      dsimp only
      split
      · rfl
      · cases get fs (pre ++ [c]) <;> rfl
  | cons a cs ih =>
    simp only [List.cons_append, walkFrom]
    cases get fs pre with
    | none => rfl
    | some cur =>
      dsimp only
      split
      · rfl
      · cases get fs (pre ++ [a]) with
        | none => rfl
        | some x => simp only [ih, List.append_assoc, List.singleton_append]

theorem walkFrom_congr (fs fs' : T) (pre : Path) (cs : List Name)
    (h : ∀ k, k ≤ cs.length → get fs' (pre ++ cs.take k) = get fs (pre ++ cs.take k)) :
    walkFrom fs' pre cs = walkFrom fs pre cs := by
  induction cs generalizing pre with
  | nil =>
    have h0 : get fs' pre = get fs pre := by simpa using h 0
    simp only [walkFrom, h0]
  | cons a cs ih =>
    have h0 : get fs' pre = get fs pre := by simpa using h 0
    have h1 : get fs' (pre ++ [a]) = get fs (pre ++ [a]) := by simpa using h 1
    have ih' : walkFrom fs' (pre ++ [a]) cs = walkFrom fs (pre ++ [a]) cs :=
      ih _ fun k hk => by simpa [List.append_assoc] using h (k + 1) (by simpa using hk)
    simp only [walkFrom, h0, h1, ih']

theorem walk_set_other (fs : T) (p q : Path) (e : Entry) (h : ¬ p.isPrefixOf q = true) :
    walk (set fs p e) q = walk fs q := by
  apply walkFrom_congr
  intro k _
  apply get_set_other
  intro heq
  apply h
  rw [← heq]
  exact List.isPrefixOf_iff_prefix.mpr (List.take_prefix k q)

theorem not_concat_prefix {α : Type} (d : List α) (c : α) : ¬ (d ++ [c]) <+: d := fun hp => by
  have := hp.length_le
  simp only [List.length_append, List.length_cons, List.length_nil] at this
  omega

theorem walk_set_new (fs : T) (d : Path) (c : Name) (e : Entry) (par : Entry)
    (hpar : walk fs d = .ok par) (hdir : par.kind = .dir) :
    walk (set fs (d ++ [c]) e) (d ++ [c]) = .ok e := by
  have hsame : walk (set fs (d ++ [c]) e) d = walk fs d :=
    walk_set_other fs _ d e fun h => not_concat_prefix d c (List.isPrefixOf_iff_prefix.mp h)
  unfold walk at *
  rw [walkFrom_snoc, hsame, hpar]
  simp only [hdir, ne_eq, not_true_eq_false, if_false, List.nil_append, get_set_same]

theorem walk_nextIno (fs : T) (n : Nat) (q : Path) : walk { fs with nextIno := n } q = walk fs q :=
  walkFrom_congr _ _ _ _ (fun _ _ => rfl)

theorem guard_ok_iff {ε α : Type} {c : Prop} [Decidable c] {err : ε} {x : Except ε α} {r : α} :
    (if c then .error err else x) = .ok r ↔ ¬ c ∧ x = .ok r := by
  by_cases hc : c <;> simp [hc]

theorem canCreate_ok {fs : T} {p : Path} (h : canCreate fs p = .ok ()) :
    p ≠ [] ∧ ∃ par, walk fs p.dropLast = .ok par ∧ par.kind = .dir := by
  unfold canCreate at h
  split at h
  · cases h
  · next hne =>
    split at h
    · cases h
    · next par hw =>
      simp only [guard_ok_iff, ne_eq, Decidable.not_not] at h
      exact ⟨fun h0 => hne h0, par, hw, h.1⟩

theorem mkdir_ok {fs fs1 : T} {p : Path} {perm : Nat} (h : mkdir fs p perm = .ok fs1) :
    walk fs p = .error .ENOENT ∧ canCreate fs p = .ok () ∧
    fs1 = { (set fs p { kind := .dir, perm := perm % 512, uid := 0, gid := 0, data := [], ino := fs.nextIno }) with
            nextIno := fs.nextIno + 1 } := by
  unfold mkdir at h
  split at h
  · cases h
  · next hwk =>
    split at h
    · cases h
    · next hc => cases h; exact ⟨hwk, hc, rfl⟩
  · cases h

theorem symlink_ok {fs fs1 : T} {p : Path} {target : Bytes} (h : symlink fs target p = .ok fs1) :
    walk fs p = .error .ENOENT ∧ canCreate fs p = .ok () ∧
    fs1 = { (set fs p { kind := .link, perm := 0o777, uid := 0, gid := 0, data := target, ino := fs.nextIno }) with
            nextIno := fs.nextIno + 1 } := by
  unfold symlink at h
  split at h
  · cases h
  · next hwk =>
    split at h
    · cases h
    · next hc => cases h; exact ⟨hwk, hc, rfl⟩
  · cases h

theorem create_ok {fs fs1 : T} {p : Path} (h : create fs p = .ok fs1) :
    (∃ q e, follow fs p = (q, .ok e) ∧ e.kind ≠ .dir ∧ fs1 = set fs q { e with data := [] }) ∨
    (∃ q, follow fs p = (q, .error .ENOENT) ∧ canCreate fs q = .ok () ∧
      fs1 = { (set fs q { kind := .file, perm := 0o666, uid := 0, gid := 0, data := [], ino := fs.nextIno }) with
              nextIno := fs.nextIno + 1 }) := by
  unfold create at h
  split at h
  · next q e hf =>
    simp only [guard_ok_iff, Except.ok.injEq] at h
    exact .inl ⟨q, e, hf, h.1, h.2.symm⟩
  · next q hf =>
    split at h
    · cases h
    · next hc =>
      split at h
      · cases h
      · cases h; exact .inr ⟨q, hf, hc, rfl⟩
  · cases h

theorem create_new_ok {fs fs1 : T} {p : Path} {err : Errno} (hmiss : walk fs p = .error err) (h : create fs p = .ok fs1) :
    canCreate fs p = .ok () ∧
    fs1 = { (set fs p { kind := .file, perm := 0o666, uid := 0, gid := 0, data := [], ino := fs.nextIno }) with
            nextIno := fs.nextIno + 1 } := by
  rcases create_ok h with ⟨_, _, hf, _⟩ | ⟨_, hf, hc, rfl⟩ <;> rw [follow_of_walk_err hmiss] at hf <;> cases hf
  exact ⟨hc, rfl⟩

theorem chmod_ok {fs fs1 : T} {p : Path} {perm : Nat} (h : chmod fs p perm = .ok fs1) :
    ∃ q e, follow fs p = (q, .ok e) ∧ fs1 = set fs q { e with perm := perm % 512 } := by
  unfold chmod at h
  split at h
  · cases h
  · next q e hf => cases h; exact ⟨q, e, hf, rfl⟩

theorem chown_ok {fs fs1 : T} {p : Path} {uid gid : Nat} (h : chown fs p uid gid = .ok fs1) :
    ∃ q e, follow fs p = (q, .ok e) ∧ fs1 = set fs q { e with uid := uid, gid := gid } := by
  unfold chown at h
  split at h
  · cases h
  · next q e hf => cases h; exact ⟨q, e, hf, rfl⟩

theorem lchown_ok {fs fs1 : T} {p : Path} {uid gid : Nat} (h : lchown fs p uid gid = .ok fs1) :
    ∃ e, walk fs p = .ok e ∧ fs1 = set fs p { e with uid := uid, gid := gid } := by
  unfold lchown at h
  split at h
  · cases h
  · next e hw => cases h; exact ⟨e, hw, rfl⟩

theorem truncate_ok {fs fs1 : T} {p : Path} {n : Nat} (h : truncate fs p n = .ok fs1) :
    ∃ q e, follow fs p = (q, .ok e) ∧ e.kind ≠ .dir ∧ n ≤ fs.maxSize ∧
      fs1 = set fs q { e with data := truncBytes e.data n } := by
  unfold truncate at h
  split at h
  · cases h
  · next q e hf =>
    simp only [guard_ok_iff, Except.ok.injEq, Nat.not_lt] at h
    exact ⟨q, e, hf, h.1, h.2.1, h.2.2.symm⟩

theorem writeAt_ok {fs fs1 : T} {p : Path} {off k : Nat} {w : Bytes} (h : writeAt fs p off w = .ok (fs1, k)) :
    ∃ q e, follow fs p = (q, .ok e) ∧ e.kind ≠ .dir ∧ k = w.length ∧ (w ≠ [] → off + w.length ≤ fs.maxSize) ∧
      fs1 = if w = [] then fs else set fs q { e with data := writeBytes e.data off w } := by
  unfold writeAt at h
  split at h
  · cases h
  · next q e hf =>
    by_cases hw : w = []
    · simp only [guard_ok_iff, hw, if_true, Except.ok.injEq, Prod.mk.injEq] at h
      exact ⟨q, e, hf, h.1, by rw [hw, ← h.2.2]; rfl, fun hne => absurd hw hne, by rw [if_pos hw, h.2.1]⟩
    · simp only [guard_ok_iff, hw, if_false, Except.ok.injEq, Prod.mk.injEq] at h
      exact ⟨q, e, hf, h.1, h.2.2.2.symm, fun _ => by omega, by rw [if_neg hw, h.2.2.1]⟩

theorem remove_ok {fs fs1 : T} {p : Path} (h : remove fs p = .ok fs1) :
    ∃ e, walk fs p = .ok e ∧ p ≠ [] ∧ ¬ (e.kind = .dir ∧ children fs p ≠ []) ∧ fs1 = del fs p := by
  unfold remove at h
  split at h
  · cases h
  · next e hw =>
    simp only [guard_ok_iff, Except.ok.injEq] at h
    exact ⟨e, hw, h.1, h.2.1, h.2.2.symm⟩

theorem rename_ok {fs fs1 : T} {a b : Path} (h : rename fs a b = .ok fs1) :
    ∃ ea, walk fs a = .ok ea ∧
      (fs1 = fs ∨ fs1 = moveTree fs a b ∧ ¬ (ea.kind = .dir ∧ isPrefix a b.dropLast = true) ∧
        (walk fs b = .error .ENOENT ∧ canCreate fs b = .ok () ∨
         ∃ eb, walk fs b = .ok eb ∧ b ≠ [] ∧ a ≠ b ∧ (ea.kind = .dir ↔ eb.kind = .dir) ∧
           ¬ (ea.kind = .dir ∧ children fs b ≠ []))) := by
  unfold rename at h
  split at h
  · cases h
  next ea hwa =>
  refine ⟨ea, hwa, ?_⟩
  simp only [guard_ok_iff] at h
  obtain ⟨-, h⟩ := h
  split at h
  · next hwb =>
    split at h
    · cases h
    · next hc =>
      simp only [guard_ok_iff, Except.ok.injEq] at h
      exact .inr ⟨h.2.symm, h.1, .inl ⟨hwb, hc⟩⟩
  · cases h
  · next eb hwb =>
    simp only [guard_ok_iff] at h
    obtain ⟨hb, h⟩ := h
    by_cases hab : a = b
    · rw [if_pos hab] at h; cases h; exact .inl rfl
    · rw [if_neg hab] at h
      simp only [guard_ok_iff, Except.ok.injEq] at h
      obtain ⟨hchk, h1, h2, h3, h⟩ := h
      refine .inr ⟨h.symm, hchk, .inr ⟨eb, hwb, hb, hab, ⟨fun hd => ?_, fun hd => ?_⟩, h3⟩⟩
      · exact Decidable.byContradiction fun hn => h1 ⟨hd, hn⟩
      · exact Decidable.byContradiction fun hn => h2 ⟨hn, hd⟩

theorem chmod_ok_of_nonlink {fs : T} {p : Path} {e : Entry} (hwk : walk fs p = .ok e) (hk : e.kind ≠ .link) (perm : Nat) :
    ∃ fs1, chmod fs p perm = .ok fs1 := by
  unfold chmod
  rw [follow_of_walk_nonlink hwk hk]
  exact ⟨_, rfl⟩

theorem chown_ok_of_nonlink {fs : T} {p : Path} {e : Entry} (hwk : walk fs p = .ok e) (hk : e.kind ≠ .link) (uid gid : Nat) :
    ∃ fs1, chown fs p uid gid = .ok fs1 := by
  unfold chown
  rw [follow_of_walk_nonlink hwk hk]
  exact ⟨_, rfl⟩

theorem chtimes_ok_of_nonlink {fs : T} {p : Path} {e : Entry} (hwk : walk fs p = .ok e) (hk : e.kind ≠ .link) :
    chtimes fs p = .ok () := by
  unfold chtimes
  rw [follow_of_walk_nonlink hwk hk]

theorem lchown_ok_of_walk {fs : T} {p : Path} {e : Entry} (hwk : walk fs p = .ok e) (uid gid : Nat) :
    ∃ fs1, lchown fs p uid gid = .ok fs1 := by
  unfold lchown
  rw [hwk]
  exact ⟨_, rfl⟩

theorem writeAt_of_follow {fs : T} {p q : Path} {e : Entry} (hf : follow fs p = (q, .ok e)) (hk : e.kind ≠ .dir)
    (off : Nat) (w : Bytes) (hw : w ≠ []) (hsz : off + w.length ≤ fs.maxSize) :
    writeAt fs p off w = .ok (set fs q { e with data := writeBytes e.data off w }, w.length) := by
  unfold writeAt
  rw [hf]
  have h2 : ¬ (off > fs.maxSize ∨ off + w.length > fs.maxSize) := by omega
  simp only [hk, hw, h2, if_false]

theorem walk_new_entry {fs : T} {p : Path} (hc : canCreate fs p = .ok ()) (e : Entry) (n : Nat) :
    walk { set fs p e with nextIno := n } p = .ok e := by
  obtain ⟨hne, par, hpar, hdir⟩ := canCreate_ok hc
  rw [walk_nextIno, ← List.dropLast_concat_getLast hne]
  exact walk_set_new fs p.dropLast (p.getLast hne) e par hpar hdir

theorem mkdir_then_walk {fs fs1 : T} {p : Path} {perm : Nat} (h : mkdir fs p perm = .ok fs1) :
    walk fs1 p = .ok { kind := .dir, perm := perm % 512, uid := 0, gid := 0, data := [], ino := fs.nextIno } := by
  obtain ⟨_, hc, rfl⟩ := mkdir_ok h
  exact walk_new_entry hc _ _

theorem symlink_then_walk {fs fs1 : T} {p : Path} {target : Bytes} (h : symlink fs target p = .ok fs1) :
    walk fs1 p = .ok { kind := .link, perm := 0o777, uid := 0, gid := 0, data := target, ino := fs.nextIno } := by
  obtain ⟨_, hc, rfl⟩ := symlink_ok h
  exact walk_new_entry hc _ _

/-! ### The map behind the list (C29): stores and removals at different paths commute -/

/-- two filesystems are the same map (entry order in the list and the next inode number aside) -/
def SameMap (a b : T) : Prop := ∀ q, get a q = get b q

theorem SameMap.refl (a : T) : SameMap a a := fun _ => rfl
theorem SameMap.symm {a b : T} (h : SameMap a b) : SameMap b a := fun q => (h q).symm
theorem SameMap.trans {a b c : T} (h1 : SameMap a b) (h2 : SameMap b c) : SameMap a c := fun q => (h1 q).trans (h2 q)

theorem set_set_comm (fs : T) (p q : Path) (e f : Entry) (h : p ≠ q) :
    SameMap (set (set fs p e) q f) (set (set fs q f) p e) := by
  intro x
  simp only [get_set]
  by_cases hx : x = q
  · rw [if_pos hx, if_neg (hx ▸ Ne.symm h), if_pos hx]
  · rw [if_neg hx, if_neg hx]

theorem set_del_comm (fs : T) (p q : Path) (e : Entry) (h : p ≠ q) :
    SameMap (del (set fs p e) q) (set (del fs q) p e) := by
  intro x
  simp only [get_set, get_del]
  by_cases hx : x = q
  · rw [if_pos hx, if_neg (hx ▸ Ne.symm h), if_pos hx]
  · rw [if_neg hx, if_neg hx]

theorem del_del_comm (fs : T) (p q : Path) : SameMap (del (del fs p) q) (del (del fs q) p) := by
  intro x
  simp only [get_del]
  by_cases hx : x = q <;> by_cases hy : x = p <;> simp [hx, hy]

theorem walk_sameMap {a b : T} (h : SameMap a b) (p : Path) : walk a p = walk b p :=
  walkFrom_congr b a [] p (fun _ _ => h _)

end Fs
end Absnfs
