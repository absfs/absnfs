/-
  FsFrame: what a successful backend operation changes. Every operation but Rename changes the map at one path and
  nowhere else: `Upd`, proved once per operation (`mkdir_upd`, `chmod_upd`, …, from the `*_ok` lemmas of FsLemmas).
  Owners, contents, existence, what Lstat shows (`viewAt`) are functions of what is stored at a path, so what became
  of any of them is read off an `Upd` (`Upd.proj`, `Upd.ne`, `Upd.same`), and with it that the model stays well-formed;
  the server's lemmas about a backend call take the `Upd` as it is. Rename moves a subtree and stands apart (FsRename).
  Then what a resolution that follows a final symlink finds after the entry at its end was updated: READ after WRITE,
  and two disjoint WriteAt calls in either order (C29, over `BytesComm`).
-/
import Absnfs.FsWF
import Absnfs.BytesComm
namespace Absnfs
namespace Fs

/-- `fs1` is `fs` except at `q`, where `g o` is stored if `o` was (`none`: nothing): `g` is `Option.map h` for the
    operations that rewrite fields of an entry, constant for those that make or remove one. For the operations that
    follow a final symlink `q` is `(follow fs p).1`, where the resolution of `p` ended: a term, so that no statement
    needs `∃ q e, follow fs p = (q, .ok e) ∧ …`; `Upd.at_nonlink` turns it into `p` when `p` is no link. -/
structure Upd (fs : T) (q : Path) (g : Option Entry → Option Entry) (fs1 : T) : Prop where
  get : ∀ x, get fs1 x = if x = q then g (get fs q) else get fs x
  wf : WF fs → WF fs1

namespace Upd
variable {fs fs1 : T} {p q : Path} {g : Option Entry → Option Entry} {β : Type} {e e0 : Entry}

theorem proj (u : Upd fs q g fs1) (F : Option Entry → β) (x : Path) :
    F (Fs.get fs1 x) = if x = q then F (g (Fs.get fs q)) else F (Fs.get fs x) := by
  rw [u.get]; split <;> rfl

theorem ne (u : Upd fs q g fs1) (F : Option Entry → β) {x : Path} (hx : x ≠ q) : F (Fs.get fs1 x) = F (Fs.get fs x) := by
  rw [u.get, if_neg hx]

/-- `hF`, by default: `g` is `Option.map h` and `F` does not look at the fields that `h` sets -/
theorem same (u : Upd fs q g fs1) (F : Option Entry → β) (x : Path) (hF : ∀ o, F (g o) = F o := by rintro (_ | _) <;> rfl) :
    F (Fs.get fs1 x) = F (Fs.get fs x) := by
  rw [u.get]
  split
  · next h => rw [h, hF]
  · rfl

theorem refl (fs : T) (q : Path) : Upd fs q id fs :=
  ⟨fun x => by split <;> simp [*], id⟩

theorem walk (u : Upd fs q g fs1) (hw : WF fs) (h : g (Fs.get fs q) = some e) : walk fs1 q = .ok e :=
  walk_eq_of_get (u.wf hw) (by rw [u.get, if_pos rfl, h])

theorem walk_map {h : Entry → Entry} (u : Upd fs q (Option.map h) fs1) (hw : WF fs) (hq : Fs.walk fs q = .ok e) :
    Fs.walk fs1 q = .ok (h e) :=
  u.walk hw (by rw [walk_ok_get hq]; rfl)

theorem trans {g' : Option Entry → Option Entry} {fs2 : T} (u : Upd fs q g fs1) (u' : Upd fs1 q g' fs2) :
    Upd fs q (g' ∘ g) fs2 :=
  ⟨fun x => by rw [u'.get, u.get, u.get, if_pos rfl]; split <;> rfl, fun hw => u'.wf (u.wf hw)⟩

/-- the operations that follow a final symlink, applied to what is not one -/
theorem at_nonlink (u : Upd fs (follow fs p).1 g fs1) (hwk : Fs.walk fs p = .ok e) (hk : e.kind ≠ .link) : Upd fs p g fs1 := by
  rwa [follow_of_walk_nonlink hwk hk] at u

theorem of_set (h0 : Fs.get fs q = some e0) (h : Entry → Entry) (hk : (h e0).kind = e0.kind := by rfl) :
    Upd fs q (Option.map h) (set fs q (h e0)) :=
  ⟨fun x => by rw [get_set, h0]; rfl, fun hw => wf_set_samekind hw h0 hk⟩

theorem of_new {err : Errno} (hmiss : Fs.walk fs p = .error err) (hc : canCreate fs p = .ok ()) (e : Entry) (n : Nat) :
    Upd fs p (fun _ => some e) { set fs p e with nextIno := n } := by
  refine ⟨fun x => get_set .., fun hw => wf_nextIno (wf_set hw (fun _ => ?_) fun e0 h0 => ?_) n⟩
  · obtain ⟨-, par, hpar, hdir⟩ := canCreate_ok hc
    exact ⟨par, walk_ok_get hpar, hdir⟩
  · rw [get_none_of_walk_err hw hmiss] at h0; cases h0

end Upd

variable {fs fs1 : T} {p : Path}

theorem mkdir_upd {perm : Nat} (h : mkdir fs p perm = .ok fs1) :
    Upd fs p (fun _ => some { kind := .dir, perm := perm % 512, uid := 0, gid := 0, data := [], ino := fs.nextIno }) fs1 := by
  obtain ⟨hmiss, hc, rfl⟩ := mkdir_ok h
  exact .of_new hmiss hc _ _

theorem symlink_upd {target : Bytes} (h : symlink fs target p = .ok fs1) :
    Upd fs p (fun _ => some { kind := .link, perm := 0o777, uid := 0, gid := 0, data := target, ino := fs.nextIno }) fs1 := by
  obtain ⟨hmiss, hc, rfl⟩ := symlink_ok h
  exact .of_new hmiss hc _ _

theorem create_new_upd {err : Errno} (hmiss : walk fs p = .error err) (h : create fs p = .ok fs1) :
    Upd fs p (fun _ => some { kind := .file, perm := 0o666, uid := 0, gid := 0, data := [], ino := fs.nextIno }) fs1 := by
  obtain ⟨hc, rfl⟩ := create_new_ok hmiss h
  exact .of_new hmiss hc _ _

/-- `g` empties the file that was there, or makes one where resolution ended in ENOENT (`create_new_upd`). In an `fs`
    that is not well-formed something may be stored there all the same, so `g` is not one function of what is stored. -/
theorem create_upd (h : create fs p = .ok fs1) : ∃ g, Upd fs (follow fs p).1 g fs1 := by
  rcases create_ok h with ⟨q, e, hf, _, rfl⟩ | ⟨q, hf, hc, rfl⟩
  · rw [hf]; exact ⟨_, .of_set (follow_ok_get hf) fun e => { e with data := [] }⟩
  · rw [hf]
    rcases followFrom_err_walk hf with h1 | h1
    · cases h1
    · exact ⟨_, .of_new h1 hc _ _⟩

theorem chmod_upd {perm : Nat} (h : chmod fs p perm = .ok fs1) :
    Upd fs (follow fs p).1 (Option.map fun e => { e with perm := perm % 512 }) fs1 := by
  obtain ⟨q, e, hf, rfl⟩ := chmod_ok h
  rw [hf]; exact .of_set (follow_ok_get hf) _

theorem chown_upd {uid gid : Nat} (h : chown fs p uid gid = .ok fs1) :
    Upd fs (follow fs p).1 (Option.map fun e => { e with uid := uid, gid := gid }) fs1 := by
  obtain ⟨q, e, hf, rfl⟩ := chown_ok h
  rw [hf]; exact .of_set (follow_ok_get hf) _

theorem lchown_upd {uid gid : Nat} (h : lchown fs p uid gid = .ok fs1) :
    Upd fs p (Option.map fun e => { e with uid := uid, gid := gid }) fs1 := by
  obtain ⟨e, hwk, rfl⟩ := lchown_ok h
  exact .of_set (walk_ok_get hwk) _

theorem truncate_upd {n : Nat} (h : truncate fs p n = .ok fs1) :
    Upd fs (follow fs p).1 (Option.map fun e => { e with data := truncBytes e.data n }) fs1 := by
  obtain ⟨q, e, hf, _, _, rfl⟩ := truncate_ok h
  rw [hf]; exact .of_set (follow_ok_get hf) _

theorem writeAt_upd {off k : Nat} {w : Bytes} (h : writeAt fs p off w = .ok (fs1, k)) :
    Upd fs (follow fs p).1 (Option.map fun e => { e with data := writeBytes e.data off w }) fs1 := by
  obtain ⟨q, e, hf, _, _, _, rfl⟩ := writeAt_ok h
  rw [hf]
  split
  · next hw =>
    refine ⟨fun x => ?_, id⟩
    split
    · next hx => rw [hx, follow_ok_get hf, hw]; rfl
    · rfl
  · exact .of_set (follow_ok_get hf) _

theorem remove_upd (h : remove fs p = .ok fs1) : Upd fs p (fun _ => none) fs1 := by
  obtain ⟨e, hwk, _, hcond, rfl⟩ := remove_ok h
  exact ⟨get_del fs p, fun hw => wf_del_leaf hw (leaf_of_removable hw (walk_ok_get hwk) hcond)⟩

theorem create_chmod_new {err : Errno} (hw : WF fs) (hmiss : walk fs p = .error err)
    (hcr : create fs p = .ok fs1) (perm : Nat) :
    ∃ fs2 e, chmod fs1 p perm = .ok fs2 ∧ Upd fs p (fun _ => some e) fs2 ∧ e.kind = .file := by
  have u1 := create_new_upd hmiss hcr
  have hwe1 := u1.walk hw rfl
  obtain ⟨fs2, hch⟩ := chmod_ok_of_nonlink hwe1 nofun perm
  exact ⟨fs2, _, hch, u1.trans ((chmod_upd hch).at_nonlink hwe1 nofun), rfl⟩

theorem walk_set_samekind (hw : WF fs) {e0 e : Entry} (h0 : get fs p = some e0) (hk : e.kind = e0.kind) :
    walk (set fs p e) p = .ok e :=
  walk_eq_of_get (wf_set_samekind hw h0 hk) (get_set_same ..)

theorem walk_set_samekind_other (hw : WF fs) {q r : Path} {e e' x : Entry} (hq : get fs q = some e)
    (hk : e'.kind = e.kind) (hne : r ≠ q) (hr : walk fs r = .ok x) : walk (set fs q e') r = .ok x := by
  apply walk_eq_of_get (wf_set_samekind hw hq hk)
  rw [get_set_other _ _ _ _ hne]
  exact walk_ok_get hr

theorem followFrom_set_target {fs : T} (hw : WF fs) {q : Path} {e e' : Entry} (hk : e'.kind = e.kind) (hnl : e.kind ≠ .link) :
    ∀ (fuel : Nat) (p : Path), followFrom fs fuel p = (q, .ok e) → followFrom (set fs q e') fuel p = (q, .ok e') := by
  intro fuel
  induction fuel with
  | zero => intro p h; cases h
  | succ n ih =>
    intro p h
    have hq : get fs q = some e := followFrom_ok_get h
    simp only [followFrom] at h ⊢
    split at h
    · cases h
    next x hx =>
    by_cases hlink : x.kind = .link
    · -- a link on the way is not the entry at `q`, so it is still there and leads where it led
      rw [if_pos hlink] at h
      have hne : p ≠ q := by
        rintro rfl
        cases (walk_ok_get hx).symm.trans hq
        exact hnl hlink
      simp only [walk_set_samekind_other hw hq hk hne hx, hlink, if_true]
      exact ih _ h
    · rw [if_neg hlink] at h
      cases h
      simp only [walk_set_samekind hw hq hk, hk, hlink, if_false]

theorem follow_set_target (hw : WF fs) {q : Path} {e : Entry} (hf : follow fs p = (q, .ok e)) (hnl : e.kind ≠ .link)
    (e' : Entry) (hk : e'.kind = e.kind := by rfl) : follow (set fs q e') p = (q, .ok e') :=
  followFrom_set_target hw hk hnl 9 p hf

theorem openRead_after_writeAt (hwf : WF fs) {e : Entry} (hwe : walk fs p = .ok e) (hnl : e.kind ≠ .link)
    {off k : Nat} {w : Bytes} (hk : 0 < k) (h : writeAt fs p off w = .ok (fs1, k)) :
    k = w.length ∧ e.kind ≠ .dir ∧ openRead fs1 p = .ok (p, { e with data := writeBytes e.data off w }) := by
  have hfol := follow_of_walk_nonlink hwe hnl
  obtain ⟨_, _, hfol', hnd, rfl, _, rfl⟩ := writeAt_ok h
  cases hfol.symm.trans hfol'
  rw [if_neg (List.length_pos_iff.mp hk)]
  exact ⟨rfl, hnd, openRead_ok.mpr (follow_set_target hwf hfol hnl _)⟩

theorem writeAt_comm_disjoint {fs : T} (hwf : WF fs) {p p' q : Path} {e : Entry}
    (hf : follow fs p = (q, .ok e)) (hf' : follow fs p' = (q, .ok e)) (hk : e.kind = .file)
    (o1 o2 : Nat) (w1 w2 : Bytes) (h1 : w1 ≠ []) (h2 : w2 ≠ [])
    (hs1 : o1 + w1.length ≤ fs.maxSize) (hs2 : o2 + w2.length ≤ fs.maxSize)
    (hd : o1 + w1.length ≤ o2 ∨ o2 + w2.length ≤ o1) :
    ∃ fa fb fin, writeAt fs p o1 w1 = .ok (fa, w1.length) ∧ writeAt fa p' o2 w2 = .ok (fin, w2.length) ∧
                 writeAt fs p' o2 w2 = .ok (fb, w2.length) ∧ writeAt fb p o1 w1 = .ok (fin, w1.length) ∧
                 get fin q = some { e with data := writeBytes (writeBytes e.data o1 w1) o2 w2 } := by
  have hnl : e.kind ≠ .link := by rw [hk]; decide
  have hnd : e.kind ≠ .dir := by rw [hk]; decide
  let e1 : Entry := { e with data := writeBytes e.data o1 w1 }
  let e2 : Entry := { e with data := writeBytes e.data o2 w2 }
  have hfa' := follow_set_target hwf hf' hnl e1
  have hfb := follow_set_target hwf hf hnl e2
  refine ⟨set fs q e1, set fs q e2, set fs q { e with data := writeBytes (writeBytes e.data o1 w1) o2 w2 },
    writeAt_of_follow hf hnd o1 w1 h1 hs1, ?_, writeAt_of_follow hf' hnd o2 w2 h2 hs2, ?_, get_set_same ..⟩
  · rw [writeAt_of_follow hfa' hnd o2 w2 h2 hs2, set_set_same]
  · rw [writeAt_of_follow hfb hnd o1 w1 h1 hs1, set_set_same, writeBytes_comm_disjoint e.data o1 o2 w1 w2 h1 h2 hd]

end Fs
end Absnfs
