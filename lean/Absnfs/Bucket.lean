/-
  Bucket: token-bucket rate limiting (rate_limiter.go: TokenBucket, PerIPLimiter, PerOperationLimiter,
  RateLimiter.AllowRequest / AllowOperation) on a virtual clock in nanoseconds.
  Tokens are exact rationals here; Go uses float64 (rounding is not modelled, see DESIGN §4).
-/
namespace Absnfs
namespace Bucket

structure TB where
  tokens : Rat
  max : Rat
  rate : Rat      -- tokens per second
  last : Nat      -- ns
  deriving Repr

def nsInv : Rat := 1 / 1000000000

def secs (ns : Nat) : Rat := (ns : Rat) * nsInv

def TB.new (rate : Rat) (burst : Nat) (now : Nat) : TB :=
  { tokens := burst, max := burst, rate := rate, last := now }

/-- tokens after refilling up to `now` (capped) -/
def TB.level (b : TB) (now : Nat) : Rat :=
  let t := b.tokens + secs (now - b.last) * b.rate
  if t > b.max then b.max else t

/-- Allow: refill, cap, take one token if there is one. -/
def TB.allow (b : TB) (now : Nat) : TB × Bool :=
  let t := b.level now
  if t ≥ 1 then ({ b with tokens := t - 1, last := now }, true)
  else ({ b with tokens := t, last := now }, false)

/-- number admitted by a sequence of Allow calls at the given instants -/
def TB.run (b : TB) : List Nat → TB × Nat
  | [] => (b, 0)
  | t :: ts =>
    let r := b.allow t
    let r2 := r.1.run ts
    (r2.1, (if r.2 then 1 else 0) + r2.2)

/-! Keyed limiters: an absent key behaves as a bucket created (full) at first use. -/

structure Keyed where
  buckets : List (String × TB)
  rate : Rat
  burst : Nat
  lastCleanup : Nat
  interval : Nat
  deriving Repr

def Keyed.new (rate : Rat) (burst : Nat) (interval now : Nat) : Keyed :=
  { buckets := [], rate := rate, burst := burst, lastCleanup := now, interval := interval }

def Keyed.find (k : Keyed) (key : String) : Option TB := (k.buckets.find? (·.1 == key)).map (·.2)

def Keyed.set (k : Keyed) (key : String) (b : TB) : Keyed :=
  { k with buckets := (key, b) :: k.buckets.filter (·.1 != key) }

/-- cleanup: drop buckets that are full (inactive). (The code drops at most 100 per pass, in map order; which
    full buckets are dropped is unobservable — `cleanup_invisible`.) -/
def Keyed.cleanup (k : Keyed) (now : Nat) : Keyed :=
  { k with buckets := k.buckets.filter (fun kb => !(kb.2.level now ≥ (k.burst : Rat))), lastCleanup := now }

def Keyed.allow (k : Keyed) (key : String) (now : Nat) : Keyed × Bool :=
  let k1 := if now - k.lastCleanup > k.interval then k.cleanup now else k
  let b := match k1.find key with
    | some b => b
    | none => TB.new k1.rate k1.burst now
  let r := b.allow now
  (k1.set key r.1, r.2)

/-- RateLimiter: global bucket, per-IP, per-connection (optional), per-(IP, operation type). -/
structure RL where
  global : TB
  perIP : Keyed
  perConn : Keyed          -- key = connection id; never cleaned up by time (CleanupConnection deletes)
  perConnEnabled : Bool
  perOp : List (String × Keyed)   -- one keyed limiter per operation type, keyed by IP
  deriving Repr

/-- AllowRequest with the consultation order as a parameter (regenerated from the source):
    `globalFirst = true` is the order in which the global bucket is charged before the client's own. -/
def RL.allowRequest (globalFirst : Bool) (r : RL) (ip conn : String) (now : Nat) : RL × Bool :=
  if globalFirst then
    let g := r.global.allow now
    if !g.2 then ({ r with global := g.1 }, false) else
    let i := r.perIP.allow ip now
    if !i.2 then ({ r with global := g.1, perIP := i.1 }, false) else
    if r.perConnEnabled then
      let c := r.perConn.allow conn now
      ({ r with global := g.1, perIP := i.1, perConn := c.1 }, c.2)
    else ({ r with global := g.1, perIP := i.1 }, true)
  else
    let i := r.perIP.allow ip now
    if !i.2 then ({ r with perIP := i.1 }, false) else
    let c := if r.perConnEnabled then r.perConn.allow conn now else (r.perConn, true)
    if !c.2 then ({ r with perIP := i.1, perConn := c.1 }, false) else
    let g := r.global.allow now
    ({ r with perIP := i.1, perConn := c.1, global := g.1 }, g.2)

def RL.allowOp (r : RL) (ip op : String) (now : Nat) : RL × Bool :=
  match r.perOp.find? (·.1 == op) with
  | none => (r, true)
  | some (_, k) =>
    let a := k.allow ip now
    ({ r with perOp := (op, a.1) :: r.perOp.filter (·.1 != op) }, a.2)

theorem secs_nonneg (n : Nat) : 0 ≤ secs n :=
  Rat.mul_nonneg Rat.natCast_nonneg (by decide +kernel)

theorem secs_zero : secs 0 = 0 := Rat.zero_mul _

theorem secs_add (a b : Nat) : secs (a + b) = secs a + secs b := by
  unfold secs
  rw [Rat.natCast_add, Rat.add_mul]

theorem secs_sub_add {a b c : Nat} (h1 : a ≤ b) (h2 : b ≤ c) : secs (c - a) = secs (b - a) + secs (c - b) := by
  rw [← secs_add, Nat.add_comm, Nat.sub_add_sub_cancel h2 h1]

theorem le_add_of_nonneg {a c : Rat} (h : 0 ≤ c) : a ≤ a + c := by
  have := (Rat.add_le_add_left (c := a)).mpr h
  rwa [Rat.add_zero] at this

theorem level_le_max (b : TB) (now : Nat) : b.level now ≤ b.max := by
  simp only [TB.level]
  split
  · exact Rat.le_refl
  · exact Rat.not_lt.mp ‹_›

theorem level_le_refill (b : TB) (now : Nat) : b.level now ≤ b.tokens + secs (now - b.last) * b.rate := by
  simp only [TB.level]
  split
  · exact Rat.le_of_lt ‹_›
  · exact Rat.le_refl

theorem le_level {b : TB} {now : Nat} {x : Rat} (h1 : x ≤ b.tokens + secs (now - b.last) * b.rate)
    (h2 : x ≤ b.max) : x ≤ b.level now := by
  simp only [TB.level]
  split
  · exact h2
  · exact h1

theorem level_mono (b : TB) (now now' : Nat) (hr : 0 ≤ b.rate) (h1 : b.last ≤ now) (h2 : now ≤ now') :
    b.level now ≤ b.level now' := by
  refine le_level (Rat.le_trans (level_le_refill b now) ?_) (level_le_max b now)
  rw [secs_sub_add h1 h2, Rat.add_mul, ← Rat.add_assoc]
  exact le_add_of_nonneg (Rat.mul_nonneg (secs_nonneg _) hr)

theorem level_new (rate : Rat) (burst now : Nat) : (TB.new rate burst now).level now = burst := by
  refine Rat.le_antisymm (level_le_max _ now) (le_level ?_ Rat.le_refl)
  show (burst : Rat) ≤ burst + secs (now - now) * rate
  rw [Nat.sub_self, secs_zero, Rat.zero_mul, Rat.add_zero]
  exact Rat.le_refl

theorem allow_snd (b : TB) (now : Nat) : (b.allow now).2 = decide (1 ≤ b.level now) := by
  simp only [TB.allow]
  split <;> simp [*]

theorem allow_tokens (b : TB) (now : Nat) :
    (b.allow now).1.tokens + ((if (b.allow now).2 then 1 else 0 : Nat) : Rat) = b.level now := by
  simp only [TB.allow]
  split
  · exact Rat.sub_add_cancel
  · exact Rat.add_zero _

theorem allow_last (b : TB) (now : Nat) : (b.allow now).1.last = now := by
  simp only [TB.allow]; split <;> rfl

theorem allow_max (b : TB) (now : Nat) : (b.allow now).1.max = b.max := by
  simp only [TB.allow]; split <;> rfl

theorem allow_rate (b : TB) (now : Nat) : (b.allow now).1.rate = b.rate := by
  simp only [TB.allow]; split <;> rfl

structure Ok (b : TB) : Prop where
  lo : 0 ≤ b.tokens
  hi : b.tokens ≤ b.max
  rate : 0 ≤ b.rate

theorem Ok.new (rate : Rat) (burst now : Nat) (hr : 0 ≤ rate) : Ok (TB.new rate burst now) :=
  ⟨Rat.natCast_nonneg, Rat.le_refl, hr⟩

theorem Ok.allow {b : TB} (h : Ok b) (now : Nat) : Ok (b.allow now).1 := by
  have hmax := level_le_max b now
  have hlo : 0 ≤ b.level now :=
    le_level (Rat.add_nonneg h.lo (Rat.mul_nonneg (secs_nonneg _) h.rate)) (Rat.le_trans h.lo h.hi)
  simp only [TB.allow]
  split
  · have : b.level now - 1 ≤ b.level now := Rat.sub_right_le_iff_le_add.mpr (le_add_of_nonneg (by decide))
    exact ⟨(Rat.le_iff_sub_nonneg _ _).mp ‹_›, Rat.le_trans this hmax, h.rate⟩
  · exact ⟨hlo, hmax, h.rate⟩

theorem Ok.run {b : TB} (h : Ok b) (ts : List Nat) : Ok (b.run ts).1 := by
  induction ts generalizing b with
  | nil => exact h
  | cons t ts ih => exact ih (h.allow t)

def Mono : Nat → List Nat → Prop
  | _, [] => True
  | last, t :: ts => last ≤ t ∧ Mono t ts

theorem Mono.allow {b : TB} {t : Nat} {ts : List Nat} (hm : Mono b.last (t :: ts)) :
    Mono (b.allow t).1.last ts := by
  rw [allow_last]; exact hm.2

theorem last_le_run_last (b : TB) (ts : List Nat) (hm : Mono b.last ts) : b.last ≤ (b.run ts).1.last := by
  induction ts generalizing b with
  | nil => exact Nat.le_refl _
  | cons t ts ih =>
    have := ih (b.allow t).1 hm.allow
    rw [allow_last] at this
    exact Nat.le_trans hm.1 this

/-- The inductive form of `Ok.admitted_le`. It needs no `Ok`: the cap only discards tokens. -/
theorem run_conserves (b : TB) (ts : List Nat) (hm : Mono b.last ts) :
    (b.run ts).1.tokens + ((b.run ts).2 : Rat) ≤ b.tokens + b.rate * secs ((b.run ts).1.last - b.last) := by
  induction ts generalizing b with
  | nil => simp [TB.run, secs]
  | cons t ts ih =>
    have ih := ih (b.allow t).1 hm.allow
    have hL := last_le_run_last _ ts hm.allow
    rw [allow_last] at hL
    rw [allow_last, allow_rate] at ih
    have hc := allow_tokens b t
    have hl := level_le_refill b t
    simp only [TB.run]
    rw [secs_sub_add hm.1 hL, Rat.mul_add, Rat.natCast_add]
    grind

theorem Ok.admitted_le {b : TB} (h : Ok b) (ts : List Nat) (hm : Mono b.last ts) :
    ((b.run ts).2 : Rat) ≤ b.tokens + b.rate * secs ((b.run ts).1.last - b.last) :=
  calc ((b.run ts).2 : Rat) ≤ (b.run ts).2 + (b.run ts).1.tokens := le_add_of_nonneg (h.run ts).lo
    _ = (b.run ts).1.tokens + (b.run ts).2 := Rat.add_comm ..
    _ ≤ _ := run_conserves b ts hm

theorem allow_of_level_eq {b b' : TB} {now : Nat} (h : b.level now = b'.level now) :
    (b.allow now).2 = (b'.allow now).2 ∧ (b.allow now).1.tokens = (b'.allow now).1.tokens := by
  simp only [TB.allow, h]
  split <;> exact ⟨rfl, rfl⟩

/-- Why `Keyed.cleanup` may drop any full bucket: the one created afresh at its next use `now'` has the same level. -/
theorem cleanup_invisible (b : TB) (rate : Rat) (burst now now' : Nat) (hfull : (burst : Rat) ≤ b.level now)
    (hmax : b.max = burst) (hr : 0 ≤ b.rate) (h1 : b.last ≤ now) (h2 : now ≤ now') :
    b.level now' = (TB.new rate burst now').level now' := by
  rw [level_new]
  exact Rat.le_antisymm (hmax ▸ level_le_max b now') (Rat.le_trans hfull (level_mono b now now' hr h1 h2))

theorem snd_ite_not {α : Type} (x : Bool) (a : α) (p : α × Bool) :
    (if (!x) = true then (a, false) else p).2 = (x && p.2) := by
  cases x <;> rfl

theorem allowRequest_snd (gf : Bool) (r : RL) (ip conn : String) (now : Nat) :
    (r.allowRequest gf ip conn now).2 =
      ((r.global.allow now).2 && ((r.perIP.allow ip now).2 &&
       (!r.perConnEnabled || (r.perConn.allow conn now).2))) := by
  cases gf
  · simp only [RL.allowRequest, Bool.false_eq_true, if_false, snd_ite_not]
    rw [← Bool.and_assoc, Bool.and_comm]
    cases r.perConnEnabled <;> rfl
  · simp only [RL.allowRequest, if_true, snd_ite_not]
    cases r.perConnEnabled <;> simp

theorem allowRequest_ownFirst_global (r : RL) (ip conn : String) (now : Nat) :
    (r.allowRequest false ip conn now).1.global =
      if (r.perIP.allow ip now).2 && (!r.perConnEnabled || (r.perConn.allow conn now).2)
      then (r.global.allow now).1 else r.global := by
  simp only [RL.allowRequest, Bool.false_eq_true, if_false]
  cases (r.perIP.allow ip now).2
  · rfl
  · cases r.perConnEnabled
    · rfl
    · simp only [if_true]
      cases (r.perConn.allow conn now).2 <;> rfl

end Bucket
end Absnfs
