/-
  ServerCoherent: the attribute cache only ever holds what the backend said (C02). Every way the server fills
  the cache — Lookup's miss path, GetAttr — stores the result of an Lstat made in the same step, and a negative
  entry only after an ENOENT; cache reads only reorder or drop entries. Hence the building blocks that do not
  modify the backend preserve coherence (procedure by procedure: Props/C02; the modifying procedures need their
  invalidations to cover what they change: `CInv`, ServerInv).
-/
import Absnfs.ServerAttrs
namespace Absnfs
namespace Server

theorem coherent_of_sub {s s' : St} (hfs : s'.fs = s.fs) (hc : AcCoherent s)
    (hsub : ∀ e ∈ s'.ac.entries, e ∈ s.ac.entries ∨ EntryOK s.fs e) : AcCoherent s' := by
  intro e he
  rw [hfs]
  exact (hsub e he).elim (hc e) id

theorem acGet_coherent (s : St) (now : Nat) (p : Bytes) (hc : AcCoherent s) : AcCoherent (acGet s now p).1 :=
  coherent_of_sub (s := s) (s' := (acGet s now p).1) rfl hc fun e he => .inl (Lru.get_sub s.ac now p e he)

theorem acPut_coherent (s : St) (now : Nat) (p : Bytes) (a : Attrs) (hc : AcCoherent s) (ha : MatchesLstat s.fs p a) :
    AcCoherent (acPut s now p a) :=
  coherent_of_sub (s := s) (s' := acPut s now p a) rfl hc fun e he =>
    (Lru.putEntry_sub s.ac _ e he).elim (fun h => .inr (h ▸ ha)) .inl

theorem acPutNeg_coherent (s : St) (now : Nat) (p : Bytes) (hc : AcCoherent s)
    (he : ∃ err, Fs.lstat s.fs (fsPath p) = .error err) : AcCoherent (acPutNeg s now p) := by
  refine coherent_of_sub (s := s) (s' := acPutNeg s now p) rfl hc fun e hmem => ?_
  unfold acPutNeg Lru.putNegative at hmem
  split at hmem
  · exact (Lru.putEntry_sub s.ac _ e hmem).elim (fun h => .inr (h ▸ he)) .inl
  · exact .inl hmem

theorem lookupPath_coherent {s s' : St} {now : Nat} {p : Bytes} {r : Except Fs.Errno Node} (h : lookupPath s now p = (s', r))
    (hc : AcCoherent s) : AcCoherent s' := by
  have h1 := acGet_coherent s now p hc
  cases h ▸ lookupPath_run s now p with
  | empty _ hr => cases hr; exact hc
  | hit _ _ hr | neg _ _ hr => cases hr; exact h1
  | absent _ _ hl hr =>
    cases hr
    split
    · exact acPutNeg_coherent _ now p h1 ⟨_, hl⟩
    · exact h1
  | found _ _ hl hr => cases hr; exact acPut_coherent _ now p _ h1 ⟨_, hl, rfl, rfl, rfl, rfl⟩

theorem getAttr_coherent {s s' : St} {now : Nat} {n : Node} {r : Except Fs.Errno Attrs} (h : getAttr s now n = (s', r))
    (hc : AcCoherent s) : AcCoherent s' := by
  have h1 := acGet_coherent s now n.path hc
  cases h ▸ getAttr_run s now n with
  | failed _ hr => cases hr; exact h1
  | ok hl hr => cases hr; exact acPut_coherent _ now n.path _ h1 ⟨_, hl, rfl, rfl, rfl, rfl⟩

theorem getAttrOr_coherent (s : St) (now : Nat) (n : Node) (d : Attrs) (hc : AcCoherent s) : AcCoherent (getAttrOr s now n d).1 := by
  unfold getAttrOr
  split <;> exact getAttr_coherent ‹_› hc

theorem lookupEach_sound (s : St) (now : Nat) (dir : Bytes) (names : List Bytes) (hc : AcCoherent s) :
    AcCoherent (lookupEach s now dir names).1 ∧
      ∀ n ∈ (lookupEach s now dir names).2, MatchesLstat s.fs n.path n.attrs :=
  (lookupEach_induct (P := fun t => AcCoherent t ∧ t.fs = s.fs) (Q := fun n => MatchesLstat s.fs n.path n.attrs)
    (fun _ _ hl ⟨hc1, hfs⟩ =>
      ⟨⟨lookupPath_coherent hl hc1, (lookupPath_acOnly hl).fs.trans hfs⟩, fun node hr =>
        let ⟨hp, hm⟩ := (lookupPath_sound hc1).1 node (hr ▸ hl)
        hfs ▸ hp ▸ hm⟩)
    s names ⟨hc, rfl⟩).imp_left And.left

theorem readDir_sound {s s' : St} {now : Nat} {d : Node} {r : Except Fs.Errno (List Node)} (h : readDir s now d = (s', r))
    (hc : AcCoherent s) : AcCoherent s' ∧ ∀ nodes, r = .ok nodes → ∀ n ∈ nodes, MatchesLstat s.fs n.path n.attrs := by
  cases h ▸ readDir_run s now d with
  | cached _ _ hr | listed _ hr =>
    cases hr
    refine (lookupEach_sound _ now d.path _ ?_).imp_right fun h2 _ h => Except.ok.inj h ▸ h2
    -- `dcTouched` and `dcStored` leave `fs` and `ac` alone: `AcCoherent` of them unfolds to `AcCoherent s`
    exact hc
  | failed _ hr => cases hr; exact ⟨hc, nofun⟩

theorem allocate_coherent (s : St) (n : Node) (hc : AcCoherent s) : AcCoherent (allocate s n).1 := hc

theorem AttrThen.coherent {s : St} {now : Nat} {n : Node} {fail : Rfc.Body} {k : Attrs → Outcome} {r : St × Outcome}
    (ht : AttrThen s now n fail k r) (hc : AcCoherent s) : AcCoherent r.1 := by
  cases ht with
  | failed hg hr | ok hg hr => rw [hr]; exact getAttr_coherent hg hc

end Server
end Absnfs
