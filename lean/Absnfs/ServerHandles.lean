/-
  ServerHandles: the handle table inside the server (C05 at handler level). `CInv` carries the table's
  invariant (`Handles.Inv`), so for every state a server can reach: the handle a reply carries resolves, in the
  state the reply leaves behind, to the object the reply names (`NodeAt`, `Resolves`); a live handle for a path is
  what a re-issue returns; READDIRPLUS batches that fit in the table keep all their handles.
-/
import Absnfs.ServerInvProcs
import Absnfs.ServerReplies
namespace Absnfs
namespace Server

theorem allocate_find (s : St) (n : Node) (h0 : Nat) :
    (allocate s n).1.nodes.find? (·.1 == h0) =
      if (allocate s n).2 = h0 then some ((allocate s n).2, n.attrs) else s.nodes.find? (·.1 == h0) := by
  show (((allocate s n).2, n.attrs) :: s.nodes.filter (·.1 != (allocate s n).2)).find? _ = _
  split
  · simp [*]
  · rename_i heq
    rw [List.find?_cons_of_neg (by simpa using heq), List.find?_filter]
    congr 1
    funext y
    by_cases hy : y.1 = h0 <;> simp [hy, Ne.symm heq]

theorem allocate_resolves (s : St) (n : Node) (h : CInv s) :
    nodeOf (allocate s n).1 (allocate s n).2 = some n :=
  nodeOf_eq_some.mpr
    ⟨Handles.get_alloc s.cfg.defaultMaxHandles s.cfg.evictDivisor s.hs n.path h.htab,
      by rw [allocate_find, if_pos rfl]; rfl⟩

theorem allocate_resolves' {s s' : St} {n : Node} {fh : Nat} (heq : allocate s n = (s', fh)) (h : CInv s) (hp : CleanPath n.path) :
    nodeOf s' fh = some n := by
  have := allocate_resolves s n h
  rw [heq] at this; exact this

theorem allocate_same (s : St) (n : Node) (h : CInv s) (hp : CleanPath n.path) (fh0 : Nat) (n0 : Node)
    (h0 : nodeOf s fh0 = some n0) (hpath : n0.path = n.path) : (allocate s n).2 = fh0 :=
  congrArg Prod.snd (Handles.alloc_live s.cfg.defaultMaxHandles s.cfg.evictDivisor s.hs fh0 n.path (cleanPath_ne_nil hp)
    h.htab (hpath ▸ (nodeOf_eq_some.mp h0).1))

/-- only the path is kept: `allocate` replaces the attributes stored under a handle when its path is issued again -/
def PathsKept (s s' : St) : Prop := ∀ h n, nodeOf s h = some n → ∃ n', nodeOf s' h = some n' ∧ n'.path = n.path

theorem PathsKept.refl (s : St) : PathsKept s s := fun _ n hn => ⟨n, hn, rfl⟩

theorem PathsKept.trans {a b c : St} (h1 : PathsKept a b) (h2 : PathsKept b c) : PathsKept a c := by
  intro h n hn
  obtain ⟨n1, hn1, hp1⟩ := h1 h n hn
  obtain ⟨n2, hn2, hp2⟩ := h2 h n1 hn1
  exact ⟨n2, hn2, hp2.trans hp1⟩

theorem allocate_keeps (s : St) (n : Node) (hI : CInv s) (hp : CleanPath n.path)
    (hroom : s.hs.live.length + 1 ≤ Handles.effMax s.cfg.defaultMaxHandles s.hs.maxRaw) : PathsKept s (allocate s n).1 := by
  intro fh0 n0 h0
  obtain ⟨hg, hf⟩ := nodeOf_eq_some.mp h0
  have hg' : Handles.get (allocate s n).1.hs fh0 = some n0.path :=
    (Handles.get_eq_some_iff (allocate_cinv hI n hp).htab.idsNodup _ _).mpr
      ((Handles.alloc_room _ s.cfg.evictDivisor s.hs n.path hroom).1 (Handles.mem_of_get hg))
  by_cases heq : (allocate s n).2 = fh0
  · exact ⟨⟨n0.path, n.attrs⟩, nodeOf_eq_some.mpr ⟨hg', by rw [allocate_find, if_pos heq]; rfl⟩, rfl⟩
  · exact ⟨n0, nodeOf_eq_some.mpr ⟨hg', by rw [allocate_find, if_neg heq]; exact hf⟩, rfl⟩

theorem allocate_room {s s1 : St} {x : Node} {fh : Nat} (ha : allocate s x = (s1, fh)) (hI : CInv s) (hx : CleanPath x.path)
    (hroom : s.hs.live.length + 1 ≤ Handles.effMax s.cfg.defaultMaxHandles s.hs.maxRaw) :
    CInv s1 ∧ PathsKept s s1 ∧ nodeOf s1 fh = some x ∧ s1.hs.live.length ≤ s.hs.live.length + 1 ∧
      s1.hs.maxRaw = s.hs.maxRaw ∧ s1.cfg = s.cfg := by
  obtain ⟨rfl, rfl⟩ : s1 = (allocate s x).1 ∧ fh = (allocate s x).2 := by rw [ha]; exact ⟨rfl, rfl⟩
  exact ⟨allocate_cinv hI x hx, allocate_keeps s x hI hx hroom, allocate_resolves s x hI,
    (Handles.alloc_room _ _ s.hs x.path hroom).2, Handles.alloc_maxRaw .., rfl⟩

/-- what LOOKUP and MNT know about the object they found, and CREATE, MKDIR and SYMLINK about the one they made, when
    they come to hand out its handle -/
structure NodeAt (s : St) (p : Bytes) (node : Node) : Prop where
  cinv : CInv s
  path : node.path = p
  clean : CleanPath p
  lstat : MatchesLstat s.fs p node.attrs

theorem NodeAt.of_lookup {s s' : St} {now : Nat} {p : Bytes} {node : Node} (hl : lookupPath s now p = (s', .ok node))
    (hI : CInv s) (hp : CleanPath p) : NodeAt s' p node :=
  ⟨lookupPath_cinv hl hI hp, lookupPath_path hl, hp, (lookupPath_acOnly hl).fs ▸ ((lookupPath_sound hI.coh).1 node hl).2⟩

theorem NodeAt.acOnly {s s' : St} {p : Bytes} {node : Node} (h : NodeAt s p node) (ha : AcOnly s s') (hI : CInv s') :
    NodeAt s' p node := ⟨hI, h.path, h.clean, ha.fs ▸ h.lstat⟩

theorem NodeAt.unseen {s s' : St} {p : Bytes} {node : Node} (h : NodeAt s p node) (u : Unseen s s') : NodeAt s' p node :=
  ⟨u.cinv h.cinv, h.path, h.clean, h.lstat.of_view (u.wf h.cinv.wf) (u.view _)⟩

def Resolves (s' : St) (fh : Nat) (p : Bytes) (fa : Rfc.Fattr) : Prop :=
  ∃ a, nodeOf s' fh = some { path := p, attrs := a } ∧ fa = toFattr a ∧ MatchesLstat s'.fs p a

theorem NodeAt.allocate {s : St} {p : Bytes} {node : Node} (h : NodeAt s p node) :
    Resolves (allocate s node).1 (allocate s node).2 p (toFattr node.attrs) :=
  ⟨node.attrs, h.path ▸ allocate_resolves s node h.cinv, rfl, h.lstat⟩

/-- C05, LOOKUP: the handle in an NFS3_OK reply resolves, in the state the reply leaves behind, to dir-path/name, with
    the attributes the reply carried -/
theorem procLookup_handle (s s' : St) (c : Ctx) (args : Bytes) (fh : Nat) (fa : Rfc.Fattr) (da : Option Rfc.Fattr)
    (hI : CInv s) (h : procLookup s c args = (s', .res ⟨0, .lookupOk fh (some fa) da⟩)) :
    ∃ hd r1 name r2 n a, decFh' s args = some (hd, r1) ∧ decStr s r1 = some (name, r2) ∧ nodeOf s hd = some n ∧
      nodeOf s' fh = some { path := joinName n.path name, attrs := a } ∧ fa = toFattr a := by
  obtain ⟨hd, r1, name, r2, n, s1, ln, _, hfh, hname, hv, hn, hl, hga, rfl, hfa, _⟩ := procLookup_ok h
  obtain ⟨a, ha, hfa', _⟩ := (NodeAt.of_lookup hl hI (joinName_clean _ _ (hI.node hn) hv)).allocate
  exact ⟨hd, r1, name, r2, n, a, hfh, hname, hn, (getAttrOr_acOnly hga).nodeOf _ ▸ ha, (Option.some.inj hfa).trans hfa'⟩

/-- C05, LOOKUP again while the handle is live: the same handle value comes back -/
theorem procLookup_same_handle (s s' : St) (c : Ctx) (args : Bytes) (fh : Nat) (fa : Option Rfc.Fattr) (da : Option Rfc.Fattr)
    (hI : CInv s) (h : procLookup s c args = (s', .res ⟨0, .lookupOk fh fa da⟩))
    (hd : Nat) (r1 name r2 : Bytes) (n : Node) (hfh : decFh' s args = some (hd, r1)) (hname : decStr s r1 = some (name, r2))
    (hn : nodeOf s hd = some n) (fh0 : Nat) (n0 : Node) (h0 : nodeOf s fh0 = some n0) (hpath : n0.path = joinName n.path name) :
    fh = fh0 := by
  obtain ⟨_, _, _, _, _, s1, ln, _, hfh', hname', hv, hn', hl, _, rfl, _⟩ := procLookup_ok h
  cases hfh.symm.trans hfh'
  cases hname.symm.trans hname'
  cases hn.symm.trans hn'
  have hm := NodeAt.of_lookup hl hI (joinName_clean _ _ (hI.node hn) hv)
  exact allocate_same s1 ln hm.cinv (hm.path ▸ hm.clean) fh0 n0 ((lookupPath_acOnly hl).nodeOf fh0 ▸ h0)
    (hpath.trans hm.path.symm)

/-- C05, MNT: the handle in the reply resolves to the cleaned path that was mounted -/
theorem procMnt_handle (s s' : St) (c : Ctx) (args : Bytes) (fhb : Bytes) (auth : List Nat) (hI : CInv s)
    (h : procMnt s c args = (s', .res ⟨0, .mntOk fhb auth⟩)) :
    ∃ raw r fh a, decStr s args = some (raw, r) ∧ fhb = encU64 fh ∧ nodeOf s' fh = some { path := cleanAbs raw, attrs := a } := by
  cases h ▸ procMnt_run s c args with
  | garbage _ hr => cases hr
  | relative _ _ hr | absent _ _ hr => exact absurd (res_inj hr).2.1 (by decide)
  | badName _ hb hr => exact absurd (res_inj hr).2.1.symm hb
  | ok hd hl hr =>
    obtain ⟨rfl, _, hb⟩ := res_inj hr
    cases hb
    obtain ⟨a, ha, _⟩ := (NodeAt.of_lookup hl hI (cleanAbs_clean _)).allocate
    exact ⟨_, _, _, a, hd, rfl, ha⟩

/-- without `hroom` (a table with room for every entry of the listing) this is false:
    `Props.C05.readdirplus_counterexample`, known finding C05/readdirplus-evicts-own-handles -/
theorem fillDirPlus_handles {limit cookie : Nat} {s s' : St} {i used cnt : Nat} {l : List Node} {r : Fill Rfc.DirEntPlus}
    (h : fillDirPlus limit cookie s i used cnt l = (s', r)) (hI : CInv s) (hl : ∀ n ∈ l, CleanPath n.path)
    (hroom : s.hs.live.length + l.length ≤ Handles.effMax s.cfg.defaultMaxHandles s.hs.maxRaw) :
    PathsKept s s' ∧ ∀ ents lim, r = .done ents lim →
      ∀ e ∈ ents, ∃ n ∈ l, ∃ fh a, e.name = baseName n.path ∧ e.fh = some fh ∧
        nodeOf s' fh = some { path := n.path, attrs := a } := by
  fun_induction fillDirPlus limit cookie s i used cnt l generalizing s' r with
  | case1 => cases h; exact ⟨.refl _, fun _ _ h e he => by cases h; cases he⟩
  | case2 _ _ _ _ _ _ _ ih =>
    -- before the cookie: skipped
    obtain ⟨b, c⟩ := ih h hI (fun n hn => hl n (List.mem_cons_of_mem _ hn)) (by rw [List.length_cons] at hroom; omega)
    exact ⟨b, fun ents lim h e he => (c ents lim h e he).imp fun _ hn => ⟨List.mem_cons_of_mem _ hn.1, hn.2⟩⟩
  | case3 =>
    -- the reply is full: no entry
    cases h
    refine ⟨.refl _, fun _ _ h e he => ?_⟩
    split at h <;> cases h
    cases he
  | case4 =>
    -- a handle for `x`, and the rest of the page, which comes out too small, from the state that leaves
    rename_i x xs _ _ _ s1 fh ha s2 hrec ih
    cases h
    rw [List.length_cons] at hroom
    obtain ⟨h1, hk, _, hlen, hmax, hcfg⟩ := allocate_room ha hI (hl x (List.mem_cons_self ..)) (by omega)
    exact ⟨hk.trans (ih hrec h1 (fun n hn => hl n (List.mem_cons_of_mem _ hn)) (by rw [hcfg, hmax]; omega)).1, nofun⟩
  | case5 =>
    -- … or which comes out as `l2`: the entry of `x` in front of it
    rename_i x xs _ _ _ s1 fh ha s2 l2 lim2 hrec ih
    cases h
    rw [List.length_cons] at hroom
    obtain ⟨h1, hk, hres, hlen, hmax, hcfg⟩ := allocate_room ha hI (hl x (List.mem_cons_self ..)) (by omega)
    obtain ⟨b, c⟩ := ih hrec h1 (fun n hn => hl n (List.mem_cons_of_mem _ hn)) (by rw [hcfg, hmax]; omega)
    refine ⟨hk.trans b, fun ents lim h e he => ?_⟩
    cases h
    rcases List.mem_cons.mp he with rfl | he
    · obtain ⟨n2, hn2, hp2⟩ := b _ _ hres
      exact ⟨x, List.mem_cons_self .., fh, n2.attrs, rfl, rfl, hp2 ▸ hn2⟩
    · exact (c _ _ rfl e he).imp fun _ hn => ⟨List.mem_cons_of_mem _ hn.1, hn.2⟩

def TabSame (s s' : St) : Prop := s'.hs = s.hs ∧ s'.nodes = s.nodes ∧ s'.cfg = s.cfg

theorem TabSame.trans {a b c : St} (h1 : TabSame a b) (h2 : TabSame b c) : TabSame a c :=
  ⟨h2.1.trans h1.1, h2.2.1.trans h1.2.1, h2.2.2.trans h1.2.2⟩

theorem TabSame.nodeOf {s s' : St} (h : TabSame s s') (fh : Nat) : nodeOf s' fh = nodeOf s fh := by
  unfold Server.nodeOf; rw [h.1, h.2.1]

theorem AcOnly.tabSame {s s' : St} (h : AcOnly s s') : TabSame s s' := ⟨h.hs, h.nodes, h.cfg⟩

theorem readDir_tab {s s' : St} {now : Nat} {d : Node} {r : Except Fs.Errno (List Node)} (h : readDir s now d = (s', r)) :
    TabSame s s' :=
  let ⟨_, ha⟩ := readDir_acOnly h
  ha.tabSame

/-- C05, READDIRPLUS, pages whose listing fits in the table (`hroom`): every handle of an NFS3_OK page resolves, in
    the state the reply leaves behind, to an object whose base name is the entry's name -/
theorem procReaddirplus_handles (s s' : St) (c : Ctx) (args : Bytes) (a : Option Rfc.Fattr) (verf : Bytes)
    (ents : List Rfc.DirEntPlus) (eof : Bool) (hI : CInv s)
    (hroom : ∀ hd r1 n nodes, decFh' s args = some (hd, r1) → nodeOf s hd = some n → (readDir s c.now n).2 = .ok nodes →
      s.hs.live.length + nodes.length ≤ Handles.effMax s.cfg.defaultMaxHandles s.hs.maxRaw)
    (h : procReaddirplus s c args = (s', .res ⟨0, .readdirplusOk a verf ents eof⟩)) :
    ∀ e ∈ ents, ∃ fh p at', e.fh = some fh ∧ e.name = baseName p ∧ nodeOf s' fh = some { path := p, attrs := at' } := by
  obtain ⟨_, _, _, _, n, s1, nodes, _, _, _, _, hfh, _, hn, hrd, hg, hf, _⟩ := procReaddirplus_ok_run h
  have hnc := hI.node hn
  obtain ⟨h1, hcl0⟩ := readDir_cinv hrd hI hnc
  have h2 := refreshEach_cinv h1 c.now (hcl0 _ rfl)
  -- the table is still the one `hroom` speaks of, and refreshing keeps the number of entries
  have t : TabSame s _ := ((readDir_tab hrd).trans (refreshEach_acOnly ..).tabSame).trans (getAttr_acOnly hg).tabSame
  intro e he
  obtain ⟨m, _, fh, at', hname, hfh', hno⟩ :=
    (fillDirPlus_handles hf (getAttr_cinv hg h2 hnc) (refreshEach_clean _ _ fun m hm => (hcl0 _ rfl m hm).1)
      (by rw [t.1, t.2.2, refreshEach_snd, List.length_map]; exact hroom _ _ _ _ hfh hn (by rw [hrd]))).2 _ _ rfl e he
  exact ⟨fh, m.path, at', hfh', hname, hno⟩

theorem table_injective (s : St) (hI : CInv s) (h1 h2 : Nat) (n1 n2 : Node) (a : nodeOf s h1 = some n1) (b : nodeOf s h2 = some n2)
    (hp : n1.path = n2.path) : h1 = h2 :=
  Handles.unique_of_nodup_paths hI.htab.pathsNodup (hp ▸ Handles.mem_of_get (nodeOf_eq_some.mp a).1)
    (Handles.mem_of_get (nodeOf_eq_some.mp b).1)

end Server
end Absnfs
