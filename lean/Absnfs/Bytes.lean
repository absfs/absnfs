/-
  Bytes: byte strings and big-endian integer codecs.
  Models encoding/binary.BigEndian as used by xdrEncodeUint32/xdrEncodeUint64/
  xdrDecodeUint32 (rpc_types.go) and binary.Read/Write of uint32/uint64.
  Go `[]byte` and `string` are both `List UInt8` here (Go strings are byte strings).
-/
namespace Absnfs

abbrev Bytes := List UInt8

def zeros (n : Nat) : Bytes := List.replicate n 0

@[simp] theorem zeros_length (n : Nat) : (zeros n).length = n := by simp [zeros]

/-- XDR padding needed after `n` bytes: `(4 - n % 4) % 4`. -/
def pad4 (n : Nat) : Nat := (4 - n % 4) % 4

theorem pad4_lt (n : Nat) : pad4 n < 4 := Nat.mod_lt _ (by decide)
theorem pad4_round (n : Nat) : (n + 3) / 4 * 4 = n + pad4 n := by unfold pad4; omega
theorem pad4_spec (n : Nat) : (n + pad4 n) % 4 = 0 := by rw [← pad4_round]; exact Nat.mul_mod_left ..

def encU32 (n : Nat) : Bytes :=
  [UInt8.ofNat (n / 16777216 % 256), UInt8.ofNat (n / 65536 % 256),
   UInt8.ofNat (n / 256 % 256), UInt8.ofNat (n % 256)]

def decU32 : Bytes → Option (Nat × Bytes)
  | a :: b :: c :: d :: rest =>
      some (16777216 * a.toNat + 65536 * b.toNat + 256 * c.toNat + d.toNat, rest)
  | _ => none

def encU64 (n : Nat) : Bytes := encU32 (n / 4294967296 % 4294967296) ++ encU32 (n % 4294967296)

def decU64 (bs : Bytes) : Option (Nat × Bytes) :=
  match decU32 bs with
  | none => none
  | some (hi, r) =>
    match decU32 r with
    | none => none
    | some (lo, r') => some (4294967296 * hi + lo, r')

@[simp] theorem encU32_length (n : Nat) : (encU32 n).length = 4 := by simp [encU32]
@[simp] theorem encU64_length (n : Nat) : (encU64 n).length = 8 := by simp [encU64]

theorem mul_add_lt {B C q x : Nat} (hq : q < C) (hx : x < B) : B * q + x < B * C :=
  Nat.lt_of_lt_of_le (Nat.add_lt_add_left hx _) (Nat.mul_le_mul_left B hq)

theorem be32_horner (a b c d : Nat) :
    16777216 * a + 65536 * b + 256 * c + d = 256 * (256 * (256 * a + b) + c) + d := by
  simp only [Nat.mul_add, ← Nat.mul_assoc]

theorem div_65536 (n : Nat) : n / 65536 = n / 256 / 256 := (Nat.div_div_eq_div_mul n 256 256).symm
theorem div_16777216 (n : Nat) : n / 16777216 = n / 65536 / 256 := (Nat.div_div_eq_div_mul n 65536 256).symm

theorem decU32_eq_some_iff {bs r : Bytes} {n : Nat} :
    decU32 bs = some (n, r) ↔ n < 4294967296 ∧ bs = encU32 n ++ r := by
  constructor
  · intro h
    match bs, h with
    | a :: b :: c :: d :: rest, h =>
      simp only [decU32, Option.some.injEq, Prod.mk.injEq, be32_horner] at h
      obtain ⟨rfl, rfl⟩ := h
      have lt (x : UInt8) : x.toNat < 256 := x.toNat_lt
      refine ⟨mul_add_lt (mul_add_lt (mul_add_lt (lt a) (lt b)) (lt c)) (lt d), ?_⟩
      -- `/ 256` and `% 256` take the bytes off the value one at a time
      simp only [encU32, div_16777216, div_65536, Nat.mul_add_div (by decide : 256 > 0), Nat.mul_add_mod,
        Nat.div_eq_of_lt, Nat.mod_eq_of_lt, lt, Nat.add_zero, UInt8.ofNat_toNat, List.cons_append, List.nil_append]
  · rintro ⟨h, rfl⟩
    simp only [encU32, decU32, List.cons_append, List.nil_append, UInt8.toNat_ofNat', Nat.reducePow, Nat.mod_mod]
    rw [Nat.mod_eq_of_lt (Nat.div_lt_of_lt_mul h : n / 16777216 < 256), be32_horner, div_16777216, Nat.div_add_mod,
      div_65536, Nat.div_add_mod, Nat.div_add_mod]

theorem decU32_encU32 (n : Nat) (h : n < 4294967296) (rest : Bytes) :
    decU32 (encU32 n ++ rest) = some (n, rest) :=
  decU32_eq_some_iff.2 ⟨h, rfl⟩

theorem decU32_encU32' (n : Nat) (h : n < 4294967296) : decU32 (encU32 n) = some (n, []) := by
  simpa using decU32_encU32 n h []

theorem decU32_none_of_short {bs : Bytes} (h : bs.length < 4) : decU32 bs = none := by
  cases hd : decU32 bs with
  | none => rfl
  | some p =>
    obtain ⟨_, rfl⟩ := decU32_eq_some_iff.1 hd
    rw [List.length_append, encU32_length] at h
    omega

theorem decU64_eq_some_iff {bs r : Bytes} {n : Nat} :
    decU64 bs = some (n, r) ↔ n < 18446744073709551616 ∧ bs = encU64 n ++ r := by
  constructor
  · intro h
    unfold decU64 at h
    split at h; · cases h
    rename_i hi r1 h1
    split at h; · cases h
    rename_i lo r2 h2
    simp only [Option.some.injEq, Prod.mk.injEq] at h
    obtain ⟨rfl, rfl⟩ := h
    obtain ⟨hhi, rfl⟩ := decU32_eq_some_iff.1 h1
    obtain ⟨hlo, rfl⟩ := decU32_eq_some_iff.1 h2
    exact ⟨mul_add_lt hhi hlo,
      by rw [encU64, Nat.mul_add_div (by decide), Nat.mul_add_mod, Nat.div_eq_of_lt hlo, Nat.mod_eq_of_lt hlo,
        Nat.add_zero, Nat.mod_eq_of_lt hhi, List.append_assoc]⟩
  · rintro ⟨h, rfl⟩
    have hhi : n / 4294967296 < 4294967296 := Nat.div_lt_of_lt_mul h
    simp only [decU64, encU64, Nat.mod_eq_of_lt hhi, List.append_assoc, decU32_encU32 _ hhi,
      decU32_encU32 _ (Nat.mod_lt n (by decide)), Nat.div_add_mod]

theorem decU64_encU64 (n : Nat) (h : n < 18446744073709551616) (rest : Bytes) :
    decU64 (encU64 n ++ rest) = some (n, rest) :=
  decU64_eq_some_iff.2 ⟨h, rfl⟩

/-- strings.Split(s, sep) for a one-byte separator -/
def splitOnByte (sep : UInt8) : Bytes → List Bytes
  | [] => [[]]
  | b :: bs =>
    match splitOnByte sep bs with
    | [] => [[b]]
    | cur :: rest => if b = sep then [] :: cur :: rest else (b :: cur) :: rest

theorem splitOnByte_eq_cons (sep : UInt8) (bs : Bytes) : ∃ cur rest, splitOnByte sep bs = cur :: rest := by
  cases bs with
  | nil => exact ⟨_, _, rfl⟩
  | cons b bs =>
    unfold splitOnByte
    split
    · exact ⟨_, _, rfl⟩
    · split <;> exact ⟨_, _, rfl⟩

theorem splitOnByte_append_sep (sep : UInt8) (x y : Bytes) :
    splitOnByte sep (x ++ sep :: y) = splitOnByte sep x ++ splitOnByte sep y := by
  induction x with
  | nil =>
    obtain ⟨cur, rest, hy⟩ := splitOnByte_eq_cons sep y
    simp [splitOnByte, hy]
  | cons b xs ih =>
    obtain ⟨cur, rest, hx⟩ := splitOnByte_eq_cons sep xs
    simp only [List.cons_append, splitOnByte, ih, hx]
    split <;> rfl

theorem splitOnByte_noSep (sep : UInt8) (c : Bytes) (h : sep ∉ c) : splitOnByte sep c = [c] := by
  induction c with
  | nil => rfl
  | cons b bs ih =>
    simp only [List.mem_cons, not_or] at h
    simp [splitOnByte, ih h.2, Ne.symm h.1]

theorem splitOnByte_pieces_noSep (sep : UInt8) (bs : Bytes) : ∀ c ∈ splitOnByte sep bs, sep ∉ c := by
  induction bs with
  | nil => simp [splitOnByte]
  | cons b bs ih =>
    obtain ⟨cur, rest, hx⟩ := splitOnByte_eq_cons sep bs
    simp only [hx, List.mem_cons, forall_eq_or_imp] at ih
    simp only [splitOnByte, hx]
    split
    · simpa using ih
    · simpa [Ne.symm ‹b ≠ sep›] using ih

/-! Hex I/O for the line-protocol driver (not used in theorems). -/

def hexDigit (n : Nat) : Char :=
  if n < 10 then Char.ofNat (48 + n) else Char.ofNat (87 + n)

def toHex (bs : Bytes) : String :=
  if bs.isEmpty then "-" else
  String.ofList (bs.flatMap fun b => [hexDigit (b.toNat / 16), hexDigit (b.toNat % 16)])

def hexVal (c : Char) : Option Nat :=
  if '0' ≤ c ∧ c ≤ '9' then some (c.toNat - 48)
  else if 'a' ≤ c ∧ c ≤ 'f' then some (c.toNat - 87)
  else none

def fromHexAux : List Char → Bytes → Option Bytes
  | [], acc => some acc.reverse
  | a :: b :: rest, acc =>
    match hexVal a, hexVal b with
    | some x, some y => fromHexAux rest (UInt8.ofNat (x * 16 + y) :: acc)
    | _, _ => none
  | [_], _ => none

def fromHex (s : String) : Option Bytes :=
  if s = "-" then some [] else fromHexAux s.toList []

end Absnfs
