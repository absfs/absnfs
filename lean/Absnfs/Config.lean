/-
  Config: runtime reconfiguration (absnfs.go: New / applyExportDefaults / UpdateExportOptions;
  options.go: UpdateTuningOptions / UpdatePolicyOptions / GetExportOptions).
  Numeric and duration fields are a vector of integers in the order of the defaults table regenerated from
  the source; the nine timeouts are a second (optional: nil pointer) vector.
-/
import Absnfs.Bytes
namespace Absnfs
namespace Config

/-- `if x <= 0 { x = default }`, field by field -/
def applyNum : List Int → List Int → List Int
  | d :: ds, x :: xs => (if x ≤ 0 then d else x) :: applyNum ds xs
  | _, _ => []

structure Tuning where
  num : List Int                 -- TransferSize, AttrCacheTimeout, … in table order
  timeouts : Option (List Int)   -- nil pointer = none
  flags : List Bool              -- CacheNegativeLookups, EnableDirCache, TCPKeepAlive, TCPNoDelay, Async
  deriving DecidableEq, Repr

structure Policy where
  readOnly : Bool
  secure : Bool
  squash : Bytes
  maxFileSize : Int
  enableRL : Bool
  rlConfig : Option Nat          -- identifies the RateLimiterConfig value; none = nil pointer
  allowed : Nat                  -- identifies the AllowedIPs list
  deriving DecidableEq, Repr

structure Cfg where
  tuning : Tuning
  policy : Policy
  deriving DecidableEq, Repr

/-- what the code does, as regenerated from the source -/
structure Behaviour where
  tuningDefaults : Bool      -- UpdateTuningOptions applies the construction defaults after the mutation
  validatesFirst : Bool      -- UpdateExportOptions checks Squash before applying anything
  policyDefaultsRL : Bool    -- UpdatePolicyOptions replaces a nil RateLimitConfig by the default config

/-- defaults for a tuning value (nil timeouts become the default timeouts) -/
def defaultTuning (dNum dTmo : List Int) (t : Tuning) : Tuning :=
  { t with num := applyNum dNum t.num,
           timeouts := some (match t.timeouts with
             | none => dTmo
             | some v => applyNum dTmo v) }

/-- UpdateTuningOptions(fn) where fn replaces the tuning value by `new` -/
def updateTuning (b : Behaviour) (dNum dTmo : List Int) (c : Cfg) (new : Tuning) : Cfg :=
  { c with tuning := if b.tuningDefaults then defaultTuning dNum dTmo new else new }

def defaultRL : Nat := 10000   -- identifies DefaultRateLimiterConfig() (its GlobalRequestsPerSecond)

/-- UpdatePolicyOptions: `none` = rejected (Squash differs) -/
def updatePolicy (b : Behaviour) (c : Cfg) (p : Policy) : Option Cfg :=
  if c.policy.squash ≠ p.squash then none
  else some { c with policy :=
    if b.policyDefaultsRL ∧ p.rlConfig = none then { p with rlConfig := some defaultRL } else p }

/-- the ExportOptions value handed to UpdateExportOptions -/
structure ExportUpdate where
  tuning : Tuning
  policy : Policy   -- its `squash` is the Squash field of the update ("" = keep)
  deriving Repr

/-- Timeouts nil in the update: keep the current ones (the code preserves them before defaulting) -/
def exportTuning (c : Cfg) (u : ExportUpdate) : Tuning :=
  { num := u.tuning.num, flags := u.tuning.flags,
    timeouts := match u.tuning.timeouts with
      | none => c.tuning.timeouts
      | some v => some v }

/-- UpdateExportOptions. Returns the new configuration and whether the call returned an error. -/
def updateExport (b : Behaviour) (dNum dTmo : List Int) (c : Cfg) (u : ExportUpdate) : Cfg × Bool :=
  let squashBad := u.policy.squash ≠ [] ∧ u.policy.squash ≠ c.policy.squash
  let newT : Tuning := exportTuning c u
  if b.validatesFirst ∧ squashBad then (c, true)
  else
    let c1 := updateTuning b dNum dTmo c newT
    if squashBad then (c1, true)
    else
      match updatePolicy b c1 { u.policy with squash := c.policy.squash } with
      | none => (c1, true)
      | some c2 => (c2, false)

inductive Op where
  | tuning (t : Tuning)
  | policy (p : Policy)
  | exportUpd (u : ExportUpdate)
  deriving Repr

def step (b : Behaviour) (dNum dTmo : List Int) (c : Cfg) : Op → Cfg
  | .tuning t => updateTuning b dNum dTmo c t
  | .policy p => (updatePolicy b c p).getD c
  | .exportUpd u => (updateExport b dNum dTmo c u).1

def AllPos (l : List Int) : Prop := ∀ x ∈ l, 0 < x

def ServiceableT (n m : Nat) (t : Tuning) : Prop :=
  t.num.length = n ∧ AllPos t.num ∧ ∃ v, t.timeouts = some v ∧ v.length = m ∧ AllPos v

def Serviceable (n m : Nat) (c : Cfg) : Prop := ServiceableT n m c.tuning

theorem updatePolicy_tuning {b : Behaviour} {c c' : Cfg} {p : Policy} (h : updatePolicy b c p = some c') :
    c'.tuning = c.tuning := by
  unfold updatePolicy at h
  split at h
  · cases h
  · cases h; rfl

theorem updateExport_tuning (b : Behaviour) (dNum dTmo : List Int) (c : Cfg) (u : ExportUpdate) :
    (updateExport b dNum dTmo c u).1 = c ∨
    (updateExport b dNum dTmo c u).1.tuning = (updateTuning b dNum dTmo c (exportTuning c u)).tuning := by
  unfold updateExport
  dsimp only
  split
  · exact .inl rfl
  split
  · exact .inr rfl
  split
  · exact .inr rfl
  · next hp => exact .inr (updatePolicy_tuning hp)

theorem applyNum_pos {d : List Int} (hd : AllPos d) (x : List Int) : AllPos (applyNum d x) := by
  induction d generalizing x with
  | nil => exact fun _ hz => nomatch hz
  | cons a as ih =>
    cases x with
    | nil => exact fun _ hz => nomatch hz
    | cons y ys =>
      obtain ⟨ha, has⟩ := List.forall_mem_cons.mp hd
      exact List.forall_mem_cons.mpr ⟨by split <;> omega, ih has ys⟩

theorem applyNum_length {d x : List Int} (hl : d.length = x.length) : (applyNum d x).length = d.length := by
  induction d generalizing x with
  | nil => rfl
  | cons a as ih =>
    cases x with
    | nil => simp at hl
    | cons y ys => exact congrArg (· + 1) (ih (Nat.succ.inj hl))

theorem applyNum_get {d x : List Int} (hl : d.length = x.length) {i : Nat} (hi : i < d.length) :
    (applyNum d x)[i]! = if x[i]! ≤ 0 then d[i]! else x[i]! := by
  induction d generalizing x i with
  | nil => cases hi
  | cons a as ih =>
    cases x with
    | nil => simp at hl
    | cons y ys =>
      cases i with
      | zero => rfl
      | succ j =>
        simp only [applyNum, List.getElem!_cons_succ]
        exact ih (Nat.succ.inj hl) (Nat.lt_of_succ_lt_succ hi)

theorem defaultTuning_serviceable {n m : Nat} {dNum dTmo : List Int} (hd : AllPos dNum) (hdn : dNum.length = n)
    (ht : AllPos dTmo) (htm : dTmo.length = m) (t : Tuning) (hn : t.num.length = n)
    (hm : ∀ v, t.timeouts = some v → v.length = m) : ServiceableT n m (defaultTuning dNum dTmo t) := by
  refine ⟨(applyNum_length (hdn.trans hn.symm)).trans hdn, applyNum_pos hd _, ?_⟩
  unfold defaultTuning
  cases hv : t.timeouts with
  | none => exact ⟨dTmo, rfl, htm, ht⟩
  | some v => exact ⟨_, rfl, (applyNum_length (htm.trans (hm v hv).symm)).trans htm, applyNum_pos ht v⟩

end Config
end Absnfs
