/-
  ServerListing: where READDIR's entries come from (C26 / C02). ReadDir looks every name of a listing up again, so
  its nodes are the listed names the loop accepts (`listable`) that exist (`lookupEach_filter`). After an NFS3_OK
  REMOVE, RMDIR or RENAME the directory cache has no entry for the directory, or directories (`DcCold`:
  `procRemove_dcCold`, …; for CREATE, MKDIR and SYMLINK this is part of `Creation`), so the next listing is read from the
  backend. Last, the inversion of an NFS3_OK READDIR / READDIRPLUS page: a slice of the numbered nodes.
-/
import Absnfs.ServerMade
import Absnfs.ServerDir
import Absnfs.ServerDcSafe
namespace Absnfs
namespace Server

/-- the names the listing loop keeps: not ".", "..", "", without '/' or '\', and sanitizePath accepts them -/
def listable (dir n : Bytes) : Bool :=
  !(decide (n = [46] ∨ n = [46, 46] ∨ n = [] ∨ n.contains 47 ∨ n.contains 92)) && (sanitize dir n).isSome

theorem listable_noSep {dir x : Bytes} (h : listable dir x = true) : NoSep x := by
  unfold listable at h
  simp only [Bool.and_eq_true, Bool.not_eq_true', decide_eq_false_iff_not] at h
  exact listing_name_noSep x h.1

def present (fs : Fs.T) (dir n : Bytes) : Bool := listable dir n && existsAt fs (fsPath (joinName dir n))

theorem present_iff {fs : Fs.T} {dir x : Bytes} :
    present fs dir x = true ↔ listable dir x = true ∧ existsAt fs (fsPath dir ++ [x]) = true := by
  rw [present, Bool.and_eq_true]
  exact and_congr_right fun hl => by rw [fsPath_joinName dir x (listable_noSep hl)]

theorem lookupEach_filter (s : St) (now : Nat) (dir : Bytes) (names : List Bytes) (hI : CInv s) (hd : CleanPath dir) :
    (lookupEach s now dir names).2.map (·.path) = (names.filter (present s.fs dir)).map (joinName dir) := by
  fun_induction lookupEach s now dir names with
  | case1 => rfl
  | case2 s x xs hx ih =>
    have hno : present s.fs dir x = false := by rw [present, listable, decide_eq_true hx]; rfl
    rw [List.filter_cons_of_neg (by simp [hno]), ih hI]
  | case3 s x xs _ hp ih =>
    have hl : listable dir x = false := by rw [listable, hp]; exact Bool.and_false _
    have hno : present s.fs dir x = false := by rw [present, hl]; rfl
    rw [List.filter_cons_of_neg (by simp [hno]), ih hI]
  | case4 s x xs hx p hp s1 e hl ih =>
    cases sanitize_some hp
    have hpc : CleanPath (joinName dir x) := .child dir x hd (listing_name_noSep x hx)
    -- over a coherent cache Lookup fails exactly when Lstat does
    have hno : present s.fs dir x = false := by
      rcases (lookupPath_sound (s' := s1) hI.coh).2 e hl with h | ⟨err, herr⟩
      · exact absurd h (cleanPath_ne_nil hpc)
      · rw [present, not_existsAt_of_lstat_err hI.wf herr]; exact Bool.and_false _
    rw [List.filter_cons_of_neg (by simp [hno]), ih (lookupPath_cinv hl hI hpc), (lookupPath_acOnly hl).fs]
  | case5 s x xs hx p hp s1 node hl _ ih =>
    cases sanitize_some hp
    have hpc : CleanPath (joinName dir x) := .child dir x hd (listing_name_noSep x hx)
    obtain ⟨_, i, hi, _⟩ := (lookupPath_sound (s' := s1) hI.coh).1 node hl
    have hyes : present s.fs dir x = true := by
      rw [present, listable, decide_eq_false hx, hp, existsAt_of_lstat hi]; rfl
    rw [List.filter_cons_of_pos hyes, List.map_cons, List.map_cons, ih (lookupPath_cinv hl hI hpc),
      (lookupPath_acOnly hl).fs, lookupPath_path hl]

theorem lookupEach_all (s : St) (now : Nat) (dir : Bytes) (names : List Bytes) (hI : CInv s) (hd : CleanPath dir)
    (hex : ∀ n ∈ names, listable dir n = true → ∃ i, Fs.lstat s.fs (fsPath (joinName dir n)) = .ok i) :
    (lookupEach s now dir names).2.map (·.path) = (names.filter (listable dir)).map (joinName dir) := by
  rw [lookupEach_filter s now dir names hI hd]
  congr 1
  refine List.filter_congr fun n hn => ?_
  cases hl : listable dir n with
  | false => rw [present, hl]; rfl
  | true => obtain ⟨i, hi⟩ := hex n hn hl; rw [present, hl, existsAt_of_lstat hi]; rfl

theorem DcColdD.map {d : Option (Lru.Cache (List Bytes))} {p : Bytes} (h : DcColdD d p)
    {f : Lru.Cache (List Bytes) → Lru.Cache (List Bytes)} (hf : ∀ c, p ∈ Lru.keys (f c) → p ∈ Lru.keys c) :
    DcColdD (d.map f) p := by
  intro c hc
  obtain ⟨c0, hc0, rfl⟩ := Option.map_eq_some_iff.mp hc
  exact fun hmem => h c0 hc0 (hf c0 hmem)

theorem coldD_invalidate {d : Option (Lru.Cache (List Bytes))} {p : Bytes} (h : DcColdD d p) (q : Bytes) :
    DcColdD (d.map fun c => Lru.invalidate c q) p :=
  h.map fun c hmem => by
    simp only [Lru.invalidate, Lru.keys, Lru.keys_removeKey] at hmem
    exact List.mem_of_mem_erase hmem

theorem coldD_invalidatePrefix {d : Option (Lru.Cache (List Bytes))} {p : Bytes} (h : DcColdD d p) (q : Bytes) :
    DcColdD (d.map fun c => Lru.invalidatePrefix c q) p :=
  h.map fun c hmem => by
    obtain ⟨e, he, hk⟩ := List.mem_map.mp hmem
    exact List.mem_map.mpr ⟨e, (Lru.invalidatePrefix_mem he).1, hk⟩

/-! ### C02, directory cache: the mutating procedures drop the parent's listing

On the NFS3_OK path of each the parent's listing is invalidated once, in a state whose directory cache is still the
initial one (only `getAttr` ran before); what follows leaves the directory cache alone or invalidates more. -/

theorem procRemove_dcCold (s s' : St) (c : Ctx) (args : Bytes) (w : Rfc.Wcc) (hI : CInv s)
    (h : procRemove s c args = (s', .res ⟨0, .wcc w⟩)) :
    ∃ hd r1 n, decFh' s args = some (hd, r1) ∧ nodeOf s hd = some n ∧ DcCold s' n.path := by
  cases h ▸ procRemove_run s c args with
  | refused hr => exact hr.not_ok.elim
  | run _ hfh _ _ hn _ hr =>
    refine ⟨_, _, _, hfh, hn, ?_⟩
    cases hr with
    | attrFailed _ hr | opFailed _ _ hr => exact (errno_not_ok hr).elim
    | removed hg hop ht =>
      obtain ⟨_, _, rfl⟩ := removeOp_ok hop
      exact .of_eq (coldD_invalidate_self ((getAttr_acOnly hg).dcI hI) _) ht.acOnly.dc

theorem procRmdir_dcCold (s s' : St) (c : Ctx) (args : Bytes) (w : Rfc.Wcc) (hI : CInv s)
    (h : procRmdir s c args = (s', .res ⟨0, .wcc w⟩)) :
    ∃ hd r1 n, decFh' s args = some (hd, r1) ∧ nodeOf s hd = some n ∧ DcCold s' n.path := by
  cases h ▸ procRmdir_run s c args with
  | refused hr => exact hr.not_ok.elim
  | run _ hfh _ _ hn _ hr =>
    refine ⟨_, _, _, hfh, hn, ?_⟩
    cases hr with
    | attrFailed _ hr => exact (errno_not_ok hr).elim
    | absent _ _ hr | notDir _ _ _ hr => exact absurd (res_inj hr).2.1.symm (by decide)
    | opFailed _ _ _ _ hr => exact absurd (res_inj hr).2.1.symm (rmdirCode_status _).1
    | removed hg _ _ _ ht =>
      -- `rmdirDone` invalidates the parent's listing and then the removed directory's own
      exact .of_eq (coldD_invalidate (coldD_invalidate_self ((getAttr_acOnly hg).dcI hI) _) _) ht.acOnly.dc

theorem procRename_dcCold (s s' : St) (c : Ctx) (args : Bytes) (w1 w2 : Rfc.Wcc) (hI : CInv s)
    (h : procRename s c args = (s', .res ⟨0, .wcc2 w1 w2⟩)) :
    ∃ h1 r1 n1 r2 h2 r3 d1 d2, decFh' s args = some (h1, r1) ∧ decStr s r1 = some (n1, r2) ∧ decFh' s r2 = some (h2, r3) ∧
      nodeOf s h1 = some d1 ∧ nodeOf s h2 = some d2 ∧ DcCold s' d1.path ∧ DcCold s' d2.path := by
  cases h ▸ procRename_run s c args with
  | refused hr => exact hr.not_ok.elim
  | run _ hfh hn1 _ hfh2 _ _ hd1 hd2 hr =>
    refine ⟨_, _, _, _, _, _, _, _, hfh, hn1, hfh2, hd1, hd2, ?_⟩
    cases hr with
    | attr1Failed _ hr | attr2Failed _ _ hr | opFailed _ _ _ hr | post1Failed _ _ _ _ hr | post2Failed _ _ _ _ _ hr =>
      exact (errno_not_ok hr).elim
    | ok hg1 hg2 hop hp1 hp2 hr =>
      obtain ⟨_, _, rfl⟩ := renameOp_ok hop
      cases (res_inj hr).1
      -- `renamed` invalidates the listing of `d1`, then of `d2`, then everything below the two names
      have hdc := (getAttr_acOnly hp2).dc.trans (getAttr_acOnly hp1).dc
      have hI2 := ((getAttr_acOnly hg1).trans (getAttr_acOnly hg2)).dcI hI
      exact ⟨.of_eq (coldD_invalidatePrefix (coldD_invalidatePrefix
                (coldD_invalidate (coldD_invalidate_self hI2 _) _) _) _) hdc,
             .of_eq (coldD_invalidatePrefix (coldD_invalidatePrefix
                (coldD_invalidate_self (hI2.map_invalidate _) _) _) _) hdc⟩

theorem numbered_refreshEach (i : Nat) (s : St) (now : Nat) (l : List Node) : numbered i (refreshEach s now l).2 = numbered i l := by
  rw [refreshEach_snd]
  induction l generalizing i with
  | nil => rfl
  | cons n ns ih => simp only [List.map_cons, numbered, refreshed_path, refreshed_fileId, ih]

theorem procReaddir_ok {s s' : St} {c : Ctx} {args : Bytes} {a : Option Rfc.Fattr} {verf : Bytes} {ents : List Rfc.DirEnt}
    {eof : Bool} {hd ck : Nat} {r1 r2 : Bytes} {n : Node} (hfh : decFh' s args = some (hd, r1))
    (hck : decU64 r1 = some (ck, r2)) (hn : nodeOf s hd = some n)
    (h : procReaddir s c args = (s', .res ⟨0, .readdirOk a verf ents eof⟩)) :
    ∃ s1 nodes k, readDir s c.now n = (s1, .ok nodes) ∧ ents = ((numbered 0 nodes).drop ck).take k ∧
      (eof = true → ents = (numbered 0 nodes).drop ck) := by
  cases h ▸ procReaddir_run s c args with
  | refused hr => exact hr.not_ok.elim
  | run hfh' hck' _ _ hn' _ hr =>
    cases hfh.symm.trans hfh'
    cases hck.symm.trans hck'
    cases hn.symm.trans hn'
    cases hr with
    | readFailed _ hr | attrFailed _ _ hr => exact (errno_not_ok hr).elim
    | tooSmall _ _ _ hr => exact absurd (res_inj hr).2.1.symm (by decide)
    | ok hrd _ hf hr =>
      cases (res_inj hr).2.2
      obtain ⟨k, hk, hall⟩ := pageOf_slice ((page_eq ..).symm.trans hf)
      exact ⟨_, _, k, hrd, hk, fun he => hall (by simpa using he)⟩

theorem procReaddirplus_ok {s s' : St} {c : Ctx} {args : Bytes} {a : Option Rfc.Fattr} {verf : Bytes}
    {ents : List Rfc.DirEntPlus} {eof : Bool} {hd ck : Nat} {r1 r2 : Bytes} {n : Node} (hfh : decFh' s args = some (hd, r1))
    (hck : decU64 r1 = some (ck, r2)) (hn : nodeOf s hd = some n)
    (h : procReaddirplus s c args = (s', .res ⟨0, .readdirplusOk a verf ents eof⟩)) :
    ∃ s1 nodes k, readDir s c.now n = (s1, .ok nodes) ∧ ents.map stripPlus = ((numbered 0 nodes).drop ck).take k ∧
      (eof = true → ents.map stripPlus = (numbered 0 nodes).drop ck) := by
  obtain ⟨_, _, _, _, _, _, _, _, _, _, _, hfh', hck', hn', hrd, _, hf, rfl⟩ := procReaddirplus_ok_run h
  cases hfh.symm.trans hfh'
  cases hck.symm.trans hck'
  cases hn.symm.trans hn'
  obtain ⟨k, hk, hall⟩ := pageOf_slice (pagePlus_eq hf)
  rw [numbered_refreshEach] at hk hall
  exact ⟨_, _, k, hrd, hk, fun he => hall (by simpa using he)⟩

end Server
end Absnfs
