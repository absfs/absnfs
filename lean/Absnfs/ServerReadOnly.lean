/-
  ServerReadOnly: the procedures that never call a modifying backend operation leave the filesystem as it
  is; with the read-only policy in force every procedure does, because the first thing each modifying
  procedure does is to answer NFS3ERR_ROFS.
-/
import Absnfs.ServerFrame
namespace Absnfs
namespace Server

theorem readDir_fs {s s' : St} {now : Nat} {d : Node} {r : Except Fs.Errno (List Node)} (h : readDir s now d = (s', r)) :
    s'.fs = s.fs := let ⟨_, hac⟩ := readDir_acOnly h; hac.fs

theorem procGetattr_fs (s : St) (c : Ctx) (args : Bytes) : (procGetattr s c args).1.fs = s.fs := by
  cases procGetattr_run s c args with
  | refused h => rw [h.fst]
  | run _ _ ht => exact ht.acOnly.fs

theorem procAccess_fs (s : St) (c : Ctx) (args : Bytes) : (procAccess s c args).1.fs = s.fs := by
  cases procAccess_run s c args with
  | refused h => rw [h.fst]
  | run _ _ _ ht => exact ht.acOnly.fs

theorem procReadlink_fs (s : St) (c : Ctx) (args : Bytes) : (procReadlink s c args).1.fs = s.fs := by
  cases procReadlink_run s c args with
  | refused h => rw [h.fst]
  | run _ _ _ _ _ ht => exact ht.acOnly.fs

theorem procRead_fs (s : St) (c : Ctx) (args : Bytes) : (procRead s c args).1.fs = s.fs := by
  cases procRead_run s c args with
  | refused h => rw [h.fst]
  | run _ _ _ _ _ _ _ ht => exact ht.acOnly.fs

theorem withObjAttr_fs (s : St) (c : Ctx) (args : Bytes) (k : Rfc.Fattr → Rfc.Body) :
    (withObjAttr s c args k).1.fs = s.fs := by
  cases withObjAttr_run s c args k with
  | refused h => rw [h.fst]
  | run _ _ ht => exact ht.acOnly.fs

theorem procLookup_fs (s : St) (c : Ctx) (args : Bytes) : (procLookup s c args).1.fs = s.fs := by
  cases procLookup_run s c args with
  | refused h => rw [h.fst]
  | run _ _ _ _ hrun =>
    cases hrun with
    | notDir _ hr => rw [hr, lookupDirAttr_fst, getAttrOr_fs]
    | absent _ hl hr => rw [hr, lookupDirAttr_fst, getAttrOr_fs, (lookupPath_acOnly hl).fs]
    | ok _ hl hr => rw [hr, lookupDirAttr_fst, getAttrOr_fs, allocate_fs, (lookupPath_acOnly hl).fs]

theorem procReaddir_fs (s : St) (c : Ctx) (args : Bytes) : (procReaddir s c args).1.fs = s.fs := by
  cases procReaddir_run s c args with
  | refused h => rw [h.fst]
  | run _ _ _ _ _ _ hrun =>
    cases hrun with
    | readFailed hrd hr => rw [hr]; exact readDir_fs hrd
    | attrFailed hrd hg hr | tooSmall hrd hg _ hr | ok hrd hg _ hr =>
      rw [hr]; exact (getAttr_acOnly hg).fs.trans (readDir_fs hrd)

theorem procReaddirplus_fs (s : St) (c : Ctx) (args : Bytes) : (procReaddirplus s c args).1.fs = s.fs := by
  cases procReaddirplus_run s c args with
  | refused h => rw [h.fst]
  | run _ _ _ _ _ _ _ hrun =>
    cases hrun with
    | readFailed hrd hr => rw [hr]; exact readDir_fs hrd
    | attrFailed hrd hg hr => rw [hr]; exact ((getAttr_acOnly hg).fs.trans (refreshEach_fs ..)).trans (readDir_fs hrd)
    | tooSmall hrd hg hf hr | ok hrd hg hf hr =>
      rw [hr]
      have hfill := (congrArg (·.1.fs) hf).symm.trans (fillDirPlus_ac ..).2
      exact ((hfill.trans (getAttr_acOnly hg).fs).trans (refreshEach_fs ..)).trans (readDir_fs hrd)

theorem procMnt_fs (s : St) (c : Ctx) (args : Bytes) : (procMnt s c args).1.fs = s.fs := by
  cases procMnt_run s c args with
  | garbage _ hr | relative _ _ hr | badName _ _ hr => rw [hr]
  | absent _ hl hr => rw [hr]; exact (lookupPath_acOnly hl).fs
  | ok _ hl hr => rw [hr, allocate_fs]; exact (lookupPath_acOnly hl).fs

theorem handleMount_fs (s : St) (c : Ctx) (proc : Nat) (args : Bytes) : (handleMount s c proc args).1.fs = s.fs := by
  fun_cases handleMount s c proc args
  · rfl
  · exact procMnt_fs s c args
  all_goals rfl

section
variable {s : St} (c : Ctx) (args : Bytes) (hro : s.cfg.readOnly = true)
include hro

theorem procSetattr_ro : procSetattr s c args = (s, res 30 (.wcc wcc0)) := by unfold procSetattr; exact if_pos hro
theorem procWrite_ro : procWrite s c args = (s, res 30 (.wcc wcc0)) := by unfold procWrite; exact if_pos hro
theorem procCreate_ro : procCreate s c args = (s, res 30 (.wcc wcc0)) := by unfold procCreate; exact if_pos hro
theorem procMkdir_ro : procMkdir s c args = (s, res 30 (.wcc wcc0)) := by unfold procMkdir; exact if_pos hro
theorem procSymlink_ro : procSymlink s c args = (s, res 30 (.wcc wcc0)) := by unfold procSymlink; exact if_pos hro
theorem procRemove_ro : procRemove s c args = (s, res 30 (.wcc wcc0)) := by unfold procRemove; exact if_pos hro
theorem procRmdir_ro : procRmdir s c args = (s, res 30 (.wcc wcc0)) := by unfold procRmdir; exact if_pos hro
theorem procRename_ro : procRename s c args = (s, res 30 (.wcc2 wcc0 wcc0)) := by unfold procRename; exact if_pos hro
theorem procCommit_ro : procCommit s c args = (s, res 30 (.wcc wcc0)) := by unfold procCommit; exact if_pos hro

end

/-- the procedures RFC 1813 lists as modifying -/
def mutatingProc (proc : Nat) : Bool := proc ∈ [2, 7, 8, 9, 10, 11, 12, 13, 14, 15, 21]

end Server
end Absnfs
