/-
  FsReach: the backend's operations as data (`Op`, `applyOp`). Each keeps `Fs.WF` (`applyOp_wf`), so every backend tree
  that can be built from the empty one is well-formed (`Props.C02.reachable_backend_wf`) — the hypothesis about the
  backend under which the server invariant `CInv` starts.
-/
import Absnfs.FsRename
namespace Absnfs
namespace Fs

inductive Op where
  | mkdir (p : Path) (perm : Nat)
  | symlink (target : Bytes) (p : Path)
  | create (p : Path)
  | writeAt (p : Path) (off : Nat) (w : Bytes)
  | truncate (p : Path) (n : Nat)
  | chmod (p : Path) (perm : Nat)
  | chown (p : Path) (uid gid : Nat)
  | lchown (p : Path) (uid gid : Nat)
  | remove (p : Path)
  | rename (a b : Path)

def applyOp (fs : T) : Op → T
  | .mkdir p perm => match mkdir fs p perm with | .ok f => f | .error _ => fs
  | .symlink t p => match symlink fs t p with | .ok f => f | .error _ => fs
  | .create p => match create fs p with | .ok f => f | .error _ => fs
  | .writeAt p off w => match writeAt fs p off w with | .ok (f, _) => f | .error _ => fs
  | .truncate p n => match truncate fs p n with | .ok f => f | .error _ => fs
  | .chmod p m => match chmod fs p m with | .ok f => f | .error _ => fs
  | .chown p u g => match chown fs p u g with | .ok f => f | .error _ => fs
  | .lchown p u g => match lchown fs p u g with | .ok f => f | .error _ => fs
  | .remove p => match remove fs p with | .ok f => f | .error _ => fs
  | .rename a b => match rename fs a b with | .ok f => f | .error _ => fs

theorem applyOp_wf (fs : T) (op : Op) (hw : WF fs) : WF (applyOp fs op) := by
  cases op <;> simp only [applyOp] <;> split <;> try exact hw
  · next h => exact (mkdir_upd h).wf hw
  · next h => exact (symlink_upd h).wf hw
  · next h => obtain ⟨_, u⟩ := create_upd h; exact u.wf hw
  · next h => exact (writeAt_upd h).wf hw
  · next h => exact (truncate_upd h).wf hw
  · next h => exact (chmod_upd h).wf hw
  · next h => exact (chown_upd h).wf hw
  · next h => exact (lchown_upd h).wf hw
  · next h => exact (remove_upd h).wf hw
  · next h => exact (rename_frame h hw).1

end Fs
end Absnfs
