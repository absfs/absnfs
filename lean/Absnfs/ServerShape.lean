/-
  ServerShape: every result the server model produces has the RFC 1813 result shape of its procedure and
  status (C14): `Good proc` per NFS procedure, `MountGood` for MOUNT. Along every path of ServerRun the outcome is an
  explicit `res st body`, so each `procX_good` is a case distinction on the paths, closed by `rfl` on the shape
  tables. `busy` is the model of busyReply, the answer given during a policy drain.
-/
import Absnfs.ServerRun
import Absnfs.ServerOpRun
namespace Absnfs
namespace Server
open Rfc (Body)

/-- the *resok shape of each procedure (11, MKNOD, is the RFC's: the model, like handleMknod, only answers
    NFS3ERR_NOTSUPP) -/
def okShape (proc : Nat) (b : Body) : Bool :=
  match proc, b with
  | 0, .void => true
  | 1, .attr _ => true
  | 2, .wcc _ => true
  | 3, .lookupOk .. => true
  | 4, .accessOk .. => true
  | 5, .readlinkOk .. => true
  | 6, .readOk .. => true
  | 7, .writeOk .. => true
  | 8, .createOk .. => true
  | 9, .createOk .. => true
  | 10, .createOk .. => true
  | 11, .createOk .. => true
  | 12, .wcc _ => true
  | 13, .wcc _ => true
  | 14, .wcc2 .. => true
  | 15, .linkRes .. => true
  | 16, .readdirOk .. => true
  | 17, .readdirplusOk .. => true
  | 18, .fsstatOk .. => true
  | 19, .fsinfoOk .. => true
  | 20, .pathconfOk .. => true
  | 21, .commitOk .. => true
  | _, _ => false

/-- the *resfail shape of each procedure -/
def failShape (proc : Nat) (b : Body) : Bool :=
  match proc, b with
  | 1, .statusOnly => true
  | 2, .wcc _ => true
  | 3, .postOp _ => true
  | 4, .postOp _ => true
  | 5, .postOp _ => true
  | 6, .postOp _ => true
  | 7, .wcc _ => true
  | 8, .wcc _ => true
  | 9, .wcc _ => true
  | 10, .wcc _ => true
  | 11, .wcc _ => true
  | 12, .wcc _ => true
  | 13, .wcc _ => true
  | 14, .wcc2 .. => true
  | 15, .linkRes .. => true
  | 16, .postOp _ => true
  | 17, .postOp _ => true
  | 18, .postOp _ => true
  | 19, .postOp _ => true
  | 20, .postOp _ => true
  | 21, .wcc _ => true
  | _, _ => false

def WellShaped (proc : Nat) (r : Rfc.Res) : Bool :=
  if r.status = 0 then okShape proc r.body else failShape proc r.body

def Good (proc : Nat) : Outcome → Prop
  | .res r => WellShaped proc r = true ∧ StatusOK r.status
  | _ => True

theorem wellShaped_of {proc st : Nat} {b : Body} (hok : st = 0 → okShape proc b = true)
    (hfail : ¬ st = 0 → failShape proc b = true) : WellShaped proc ⟨st, b⟩ = true := by
  unfold WellShaped
  split
  · exact hok ‹_›
  · exact hfail ‹_›

theorem good_fail {proc st : Nat} {b : Body} (h : failShape proc b = true) (hst : st ≠ 0) (hm : StatusOK st) :
    Good proc (res st b) :=
  ⟨wellShaped_of (fun h0 => absurd h0 hst) fun _ => h, hm⟩

theorem good_errno {proc : Nat} {b : Body} (h : failShape proc b = true) (e : Fs.Errno) : Good proc (res (mapErrno e) b) :=
  good_fail h (mapErrno_ne_zero e) (mapErrno_status e)

theorem good_ok {proc : Nat} {b : Body} (h : okShape proc b = true) : Good proc (res 0 b) :=
  ⟨h, (by decide : StatusOK 0)⟩

theorem Refusal.good {proc : Nat} {b : Body} {s : St} {r : St × Outcome} (h : failShape proc b = true)
    (hr : Refusal b s r) : Good proc r.2 := by
  obtain ⟨st, hst, hm, rfl⟩ := hr
  exact good_fail h hst hm

theorem AttrThen.good {proc : Nat} {s : St} {now : Nat} {n : Node} {fail : Body} {k : Attrs → Outcome} {r : St × Outcome}
    (hf : failShape proc fail = true) (hk : ∀ a, Good proc (k a)) (h : AttrThen s now n fail k r) : Good proc r.2 := by
  cases h with
  | failed _ hr => rw [hr]; exact good_errno hf _
  | ok _ hr => rw [hr]; exact hk _

theorem MadeThen.good {proc : Nat} {s : St} {c : Ctx} {n : Node} {pre : Attrs} {node : Node} {r : St × Outcome}
    (hf : failShape proc (.wcc wcc0) = true) (hk : ∀ fh fa w, okShape proc (.createOk fh fa w) = true)
    (h : MadeThen s c n pre node r) : Good proc r.2 := by
  cases h with
  | postFailed _ hr => rw [hr]; exact good_errno hf _
  | ok _ hr => rw [hr]; exact good_ok (hk ..)

theorem procGetattr_good (s : St) (c : Ctx) (args : Bytes) : Good 1 (procGetattr s c args).2 := by
  cases procGetattr_run s c args with
  | refused h => exact h.good rfl
  | run _ _ h => exact h.good rfl fun _ => good_ok rfl

theorem withObjAttr_good (p : Nat) (s : St) (c : Ctx) (args : Bytes) (k : Rfc.Fattr → Body)
    (hk : ∀ a, okShape p (k a) = true) (hf : failShape p (.postOp none) = true) : Good p (withObjAttr s c args k).2 := by
  cases withObjAttr_run s c args k with
  | refused h => exact h.good hf
  | run _ _ h => exact h.good hf fun _ => good_ok (hk _)

theorem procAccess_good (s : St) (c : Ctx) (args : Bytes) : Good 4 (procAccess s c args).2 := by
  cases procAccess_run s c args with
  | refused h => exact h.good rfl
  | run _ _ _ h => exact h.good rfl fun _ => good_ok rfl

theorem procReadlink_good (s : St) (c : Ctx) (args : Bytes) : Good 5 (procReadlink s c args).2 := by
  cases procReadlink_run s c args with
  | refused h => exact h.good rfl
  | run _ _ _ _ _ h => exact h.good rfl fun _ => good_ok rfl

theorem procRead_good (s : St) (c : Ctx) (args : Bytes) : Good 6 (procRead s c args).2 := by
  cases procRead_run s c args with
  | refused h => exact h.good rfl
  | run _ _ _ _ _ _ _ h => exact h.good rfl fun _ => good_ok rfl

theorem procCommit_good (s : St) (c : Ctx) (args : Bytes) : Good 21 (procCommit s c args).2 := by
  cases procCommit_run s c args with
  | refused h => exact h.good rfl
  | run _ _ _ h => exact h.good rfl fun _ => good_ok rfl

theorem procLookup_good (s : St) (c : Ctx) (args : Bytes) : Good 3 (procLookup s c args).2 := by
  cases procLookup_run s c args with
  | refused h => exact h.good rfl
  | run _ _ _ _ h =>
    cases h with
    | notDir _ hr => rw [hr]; exact good_fail rfl (by decide) (by decide)
    | absent _ _ hr => rw [hr]; exact good_errno rfl _
    | ok _ _ hr => rw [hr]; exact good_ok rfl

theorem procReaddir_good (s : St) (c : Ctx) (args : Bytes) : Good 16 (procReaddir s c args).2 := by
  cases procReaddir_run s c args with
  | refused h => exact h.good rfl
  | run _ _ _ _ _ _ h =>
    cases h with
    | readFailed _ hr | attrFailed _ _ hr => rw [hr]; exact good_errno rfl _
    | tooSmall _ _ _ hr => rw [hr]; exact good_fail rfl (by decide) (by decide)
    | ok _ _ _ hr => rw [hr]; exact good_ok rfl

theorem procReaddirplus_good (s : St) (c : Ctx) (args : Bytes) : Good 17 (procReaddirplus s c args).2 := by
  cases procReaddirplus_run s c args with
  | refused h => exact h.good rfl
  | run _ _ _ _ _ _ _ h =>
    cases h with
    | readFailed _ hr | attrFailed _ _ hr => rw [hr]; exact good_errno rfl _
    | tooSmall _ _ _ hr => rw [hr]; exact good_fail rfl (by decide) (by decide)
    | ok _ _ _ hr => rw [hr]; exact good_ok rfl

theorem setAttrOp_status {s s' : St} {h : Nat} {n : Node} {a : Attrs} {ts : Bool} {st : Nat}
    (he : setAttrOp s h n a ts = (s', some st)) : ∃ e, st = mapErrno e := by
  cases he ▸ setAttrOp_run s h n a ts with
  | lstatFailed _ hr | chmodFailed _ _ hr | chownFailed _ _ _ hr | chtimesFailed _ _ _ _ hr =>
    exact ⟨_, Option.some.inj (Prod.mk.inj hr).2⟩
  | ok _ _ _ _ hr => cases hr

theorem setattrSize_status {s1 : St} {h : Nat} {n : Node} {pre : Attrs} {size : Option Nat} {st : Nat}
    (he : setattrSize s1 h n pre size = .error st) : st ≠ 0 ∧ StatusOK st := by
  revert he
  fun_cases setattrSize s1 h n pre size
  all_goals intro he; cases he
  -- the errors: a size beyond int64, beyond MaxFileSize, a symlink, Truncate's errno
  · decide
  · decide
  · decide
  · exact ⟨mapErrno_ne_zero _, mapErrno_status _⟩

theorem procSetattr_good (s : St) (c : Ctx) (args : Bytes) : Good 2 (procSetattr s c args).2 := by
  cases procSetattr_run s c args with
  | refused h => exact h.good rfl
  | run _ _ _ _ _ _ h =>
    cases h with
    | attrFailed _ hr => rw [hr]; exact good_errno rfl _
    | guarded _ _ hr => rw [hr]; exact good_fail rfl (by decide) (by decide)
    | sizeFailed _ _ hsz hr => rw [hr]; exact good_fail rfl (setattrSize_status hsz).1 (setattrSize_status hsz).2
    | sized _ _ _ hr =>
      rw [hr]
      cases setattrApply_run .. with
      | noNode _ hr => rw [hr]; exact good_fail rfl (by decide) (by decide)
      | opFailed _ hop hr => obtain ⟨e, rfl⟩ := setAttrOp_status hop; rw [hr]; exact good_errno rfl _
      | applied _ _ ht => exact ht.good rfl fun _ => good_ok rfl

theorem procWrite_good (s : St) (c : Ctx) (args : Bytes) : Good 7 (procWrite s c args).2 := by
  cases procWrite_run s c args with
  | refused h => exact h.good rfl
  | run _ _ _ _ _ _ _ _ _ _ _ _ h =>
    cases h with
    | attrFailed _ hr | postFailed _ _ _ _ hr | opFailed _ _ _ hr => rw [hr]; exact good_errno rfl _
    | isLink _ _ hr => rw [hr]; exact good_fail rfl (by decide) (by decide)
    | ok _ _ _ _ hr => rw [hr]; exact good_ok rfl

theorem createStep1_status (s1 : St) (p : Bytes) (info : Fs.Info) (how : Nat) (sa : Sattr3) (verf : Bytes) :
    StatusOK (createStep1 s1 p info how sa verf).2 := by
  cases createStep1_run s1 p info how sa verf with
  | exist _ hr => rw [hr]; exact (by decide : StatusOK 17)
  | proceed _ _ _ h =>
    cases h with
    | kept _ hr | truncated _ _ _ _ _ hr => rw [hr]; exact (by decide : StatusOK 0)
    | tooLarge _ _ _ hr => rw [hr]; exact (by decide : StatusOK 22)
    | fbig _ _ _ hr => rw [hr]; exact (by decide : StatusOK 27)
    | truncFailed _ _ _ hr => rw [hr]; exact mapErrno_status _

theorem createFinish_good (s2 : St) (st : Nat) (c : Ctx) (n : Node) (pre : Attrs) (p : Bytes) (hst : StatusOK st) :
    Good 8 (createFinish s2 st c n pre p).2 := by
  cases createFinish_run s2 st c n pre p with
  | failed h0 hr => rw [hr]; exact good_fail rfl h0 hst
  | lookupFailed _ _ hr => rw [hr]; exact good_errno rfl _
  | ok _ _ hr => rw [hr]; exact good_ok rfl

theorem createNew_good (s1 : St) (c : Ctx) (n : Node) (pre : Attrs) (name : Bytes) (mode how : Nat) (sa : Sattr3) (verf : Bytes) :
    Good 8 (createNew s1 c n pre name mode how sa verf).2 := by
  cases createNew_run s1 c n pre name mode how sa verf with
  | opFailed _ hr => rw [hr]; exact good_errno rfl _
  | made _ ht => exact ht.good rfl fun _ _ _ => rfl

theorem procCreate_good (s : St) (c : Ctx) (args : Bytes) : Good 8 (procCreate s c args).2 := by
  cases procCreate_run s c args with
  | refused h => exact h.good rfl
  | run _ _ _ _ _ _ _ _ h =>
    cases h with
    | attrFailed _ hr => rw [hr]; exact good_errno rfl _
    | existing _ _ hr => rw [hr]; exact createFinish_good _ _ c _ _ _ (createStep1_status ..)
    | fresh _ _ hr => rw [hr]; exact createNew_good ..

theorem procMkdir_good (s : St) (c : Ctx) (args : Bytes) : Good 9 (procMkdir s c args).2 := by
  cases procMkdir_run s c args with
  | refused h => exact h.good rfl
  | run _ _ _ _ _ _ _ h =>
    cases h with
    | attrFailed _ hr | lookupFailed _ _ _ hr | opFailed _ _ hr => rw [hr]; exact good_errno rfl _
    | made _ _ _ ht => exact ht.good rfl fun _ _ _ => rfl

theorem procSymlink_good (s : St) (c : Ctx) (args : Bytes) : Good 10 (procSymlink s c args).2 := by
  cases procSymlink_run s c args with
  | refused h => exact h.good rfl
  | run _ _ _ _ _ _ _ _ _ _ h =>
    cases h with
    | attrFailed _ hr | opFailed _ _ hr => rw [hr]; exact good_errno rfl _
    | made _ _ ht => exact ht.good rfl fun _ _ _ => rfl

theorem procRemove_good (s : St) (c : Ctx) (args : Bytes) : Good 12 (procRemove s c args).2 := by
  cases procRemove_run s c args with
  | refused h => exact h.good rfl
  | run _ _ _ _ _ _ h =>
    cases h with
    | attrFailed _ hr | opFailed _ _ hr => rw [hr]; exact good_errno rfl _
    | removed _ _ ht => exact ht.good rfl fun _ => good_ok rfl

theorem procRmdir_good (s : St) (c : Ctx) (args : Bytes) : Good 13 (procRmdir s c args).2 := by
  cases procRmdir_run s c args with
  | refused h => exact h.good rfl
  | run _ _ _ _ _ _ h =>
    cases h with
    | attrFailed _ hr => rw [hr]; exact good_errno rfl _
    | absent _ _ hr | notDir _ _ _ hr => rw [hr]; exact good_fail rfl (by decide) (by decide)
    | opFailed _ _ _ _ hr => rw [hr]; exact good_fail rfl (rmdirCode_status _).1 (rmdirCode_status _).2
    | removed _ _ _ _ ht => exact ht.good rfl fun _ => good_ok rfl

theorem procRename_good (s : St) (c : Ctx) (args : Bytes) : Good 14 (procRename s c args).2 := by
  cases procRename_run s c args with
  | refused h => exact h.good rfl
  | run _ _ _ _ _ _ _ _ _ h =>
    cases h with
    | attr1Failed _ hr | attr2Failed _ _ hr | opFailed _ _ _ hr | post1Failed _ _ _ _ hr | post2Failed _ _ _ _ _ hr =>
      rw [hr]; exact good_errno rfl _
    | ok _ _ _ _ _ hr => rw [hr]; exact good_ok rfl

/-- the status 4 only ever comes from an argument decoding failure: when the arguments decode (here: GETATTR) it
    does not occur -/
theorem getattr_status_4_only_garbage (s : St) (c : Ctx) (args : Bytes) (h : Nat) (r : Bytes)
    (hd : decFh' s args = some (h, r)) : ∀ st b, (procGetattr s c args).2 = .res ⟨st, b⟩ → st ≠ 4 := by
  have h4 : ∀ e, mapErrno e ≠ 4 := fun e => by cases e <;> decide
  intro st b
  fun_cases procGetattr s c args
  · cases hd.symm.trans ‹decFh' s args = none›
  all_goals intro heq; cases heq
  -- what is left: NFS3ERR_STALE, GetAttr's errno, NFS3_OK
  · decide
  · exact h4 _
  · decide

/-- MOUNT results: MNT answers a mountstat3 member with the right shape; the other procedures have no status -/
def MountGood (proc : Nat) : Outcome → Prop
  | .res r =>
    (match proc, r.body with
     | 0, .void => True | 3, .void => True | 4, .void => True
     | 1, .statusOnly => r.status ≠ 0 ∧ r.status ∈ Rfc.mountstat3
     | 1, .mntOk fh fl => r.status = 0 ∧ fh.length = 8 ∧ fl = [1]
     | 2, .mountList _ => True
     | 5, .exportList _ => True
     | _, _ => False)
  | _ => True

theorem firstBadComponent_mem (l : List Bytes) (h : firstBadComponent l ≠ 0) : firstBadComponent l ∈ Rfc.mountstat3 := by
  induction l with
  | nil => exact absurd rfl h
  | cons x xs ih =>
    unfold firstBadComponent at h ⊢
    split
    · rcases validateFilename_status x with h0 | h1 | h1
      · exact absurd h0 ‹_›
      · rw [h1]; decide
      · rw [h1]; decide
    · rw [if_neg ‹_›] at h; exact ih h

theorem procMnt_good (s : St) (c : Ctx) (args : Bytes) : MountGood 1 (procMnt s c args).2 := by
  cases procMnt_run s c args with
  | garbage _ hr => rw [hr]; trivial
  | relative _ _ hr | absent _ _ hr => rw [hr]; exact ⟨by decide, by decide⟩
  | badName _ hb hr =>
    rw [hr]
    refine ⟨hb, ?_⟩
    unfold mntBad at hb ⊢
    split
    · exact absurd (if_pos ‹_›) hb
    · rw [if_neg ‹_›] at hb; exact firstBadComponent_mem _ hb
  | ok _ _ hr => rw [hr]; exact ⟨rfl, encU64_length _, rfl⟩

/-- busyReply (nfs_handlers.go): the answer to a call that arrives during a policy drain -/
def busy (prog vers proc : Nat) : Outcome :=
  if prog = 100003 then
    if vers ≠ 3 then .progMismatch
    else if proc = 0 then res 0 .void
    else if proc = 1 then res 10008 .statusOnly
    else if proc ∈ [3, 4, 5, 6, 16, 17, 18, 19, 20] then res 10008 (.postOp none)
    else if proc ∈ [2, 7, 8, 9, 10, 11, 12, 13, 21] then res 10008 (.wcc wcc0)
    else if proc = 14 then res 10008 (.wcc2 wcc0 wcc0)
    else if proc = 15 then res 10008 (.linkRes none wcc0)
    else .procUnavail
  else if prog = 100005 then
    if vers ≠ 1 ∧ vers ≠ 3 then .progMismatch
    else if proc = 0 ∨ proc = 3 ∨ proc = 4 then res 0 .void
    else if proc = 1 then res 10006 .statusOnly
    else if proc = 2 then res 0 (.mountList [])
    else if proc = 5 then res 0 (.exportList [([47], [])])
    else .procUnavail
  else .progUnavail

end Server
end Absnfs
