/-
  C15 — Arbitrary client bytes cannot crash, desynchronise or exhaust the server.
  What a theorem can carry: the byte-level contract of one connection. Records are read with the record-marking
  reader and decoded with the call decoder; both are the models of C13 / C12 (compared there with the real
  decoders on structured, truncated and mutated inputs) and their allocation lists are bounded by the
  documented limits for *every* input. `ConnLoop.serve` is the loop over whole records. Process survival (no
  panic), heap growth and the probe connection are runtime behaviour: observed by the harness on a real
  record-marking TCP server, not provable here.
-/
import Absnfs.ConnLoop
import Gen.Facts
open Absnfs Absnfs.ConnLoop

namespace Props.C15

theorem gen_limits : Gen.defaultMaxRecordSize = 1048576 ∧ Gen.maxRpcAuth = 400 ∧ Gen.maxXdrString = 8192 := by decide
theorem gen_checks_before_make : (Gen.recordLimitBeforeMake && Gen.credLimitCheckBeforeMake && Gen.verfLimitCheckBeforeMake &&
    Gen.xdrStringLimitCheckBeforeMake && Gen.fhMaxBeforeMake) = true := by decide

/-- while decoding a call header the decoder allocates at most the two bounded auth bodies, whatever the bytes -/
theorem call_decoding_allocation_bounded (maxAuth : Nat) (bs : Bytes) :
    ∀ n ∈ decCallAllocs maxAuth bs, n ≤ maxAuth ∨ n < 4 := decCallAllocs_bounded maxAuth bs

/-- replies: exactly the XIDs of the records before the first undecodable one, in arrival order -/
theorem replies_are_the_decodable_prefix (maxAuth : Nat) (recs : List Bytes) :
    (serve maxAuth recs).1 = (decodablePrefix maxAuth recs).filterMap (xidOf maxAuth) := by
  induction recs with
  | nil => rfl
  | cons r rs ih => cases h : decCall maxAuth r <;> simp [serve, decodablePrefix, xidOf, h, ih]

/-- each decodable call is answered at most once, with its own XID: there are as many replies as records before the
    first undecodable one, and each reply XID is the XID of a record that was sent -/
theorem at_most_one_reply_each (maxAuth : Nat) (recs : List Bytes) :
    (serve maxAuth recs).1.length = (decodablePrefix maxAuth recs).length ∧
    ∀ x ∈ (serve maxAuth recs).1, ∃ r ∈ recs, xidOf maxAuth r = some x := by
  induction recs with
  | nil => simp [serve, decodablePrefix]
  | cons r rs ih =>
    cases h : decCall maxAuth r with
    | none => simp [serve, decodablePrefix, h]
    | some y =>
      simp only [serve, decodablePrefix, h, Option.isSome_some, if_true, List.length_cons, ih.1,
        List.forall_mem_cons, true_and]
      exact ⟨⟨r, .head _, by simp [xidOf, h]⟩,
        fun x hx => let ⟨r', hr', hx'⟩ := ih.2 x hx; ⟨r', .tail _ hr', hx'⟩⟩

/-- a connection whose stream becomes undecodable is closed, and nothing after that point is answered -/
theorem undecodable_closes (maxAuth : Nat) (recs : List Bytes) :
    (serve maxAuth recs).2 = true ↔ ∃ r ∈ recs, decCall maxAuth r = none := by
  induction recs with
  | nil => simp [serve]
  | cons r rs ih => cases h : decCall maxAuth r <;> simp [serve, h, ih]

theorem nothing_answered_after (maxAuth : Nat) (pre : List Bytes) (bad : Bytes) (post : List Bytes)
    (hb : decCall maxAuth bad = none) : (serve maxAuth (pre ++ bad :: post)).1 = (serve maxAuth (pre ++ [bad])).1 := by
  induction pre with
  | nil => simp [serve, hb]
  | cons r rs ih => cases h : decCall maxAuth r <;> simp [serve, h, ih]

/-- non-vacuity: an 8-byte record is not a call -/
example : (serve 400 [[0, 0, 0, 1, 0, 0, 0, 0]]).2 = true := by decide

/-- a call refused at the RPC level gives the policy read-lock back first: nothing is left held that could stop a later
    policy reload, and with it every other connection -/
theorem gen_refusal_unlocks : Gen.handleCallUnlocksOnRefusal = true := by decide

end Props.C15
