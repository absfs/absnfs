/-
  C25 — MaxFileSize is enforced.
  For every positive MaxFileSize (the policy field the handlers load per request, so set at construction or at
  runtime alike) and every offset, count and size.
-/
import Absnfs.BytesSpec
import Absnfs.ServerData
import Absnfs.ServerCreate
import Gen.Facts
open Absnfs Absnfs.Server

namespace Props.C25

theorem gen_guards : (Gen.writeChecksMaxFileSize && Gen.setattrChecksMaxFileSize && Gen.createChecksMaxFileSize) = true := by decide

/-- the limit test: positive limit and size beyond it -/
theorem limit_test (c : Cfg) (size : Nat) : exceedsMax c size = true ↔ (c.maxFileSize > 0 ∧ (size : Int) > c.maxFileSize) := by
  unfold exceedsMax
  exact decide_eq_true_iff

/-- WRITE ending beyond the limit: NFS3ERR_FBIG, the state (so the file) is exactly as before. -/
theorem write_beyond_limit_refused (s : St) (c : Ctx) (args : Bytes) (h off cnt stable dlen : Nat) (r1 r2 r3 r4 r5 : Bytes)
    (hro : s.cfg.readOnly = false) (hfh : decFh' s args = some (h, r1)) (hoff : decU64 r1 = some (off, r2))
    (hcnt : decU32 r2 = some (cnt, r3)) (hst : decU32 r3 = some (stable, r4)) (hov : ¬ off + cnt ≥ u64Max)
    (hdl : decU32 r4 = some (dlen, r5)) (heq : dlen = cnt) (htr : ¬ cnt > s.cfg.transfer)
    (hbig : exceedsMax s.cfg (off + cnt) = true) :
    procWrite s c args = (s, res 27 (.wcc wcc0)) := by
  unfold procWrite
  simp only [hro, hfh, hoff, hcnt, hst, hov, hdl, heq, htr, hbig, Bool.false_eq_true, if_false, if_true, ne_eq, not_true_eq_false]

/-- WRITE that succeeds under a positive limit ends within it: the file is at most max(old size, limit) long,
    and is otherwise written exactly as without a limit (C01's `write_stores_payload`). -/
theorem write_within_limit (s s' : St) (c : Ctx) (args : Bytes) (w : Rfc.Wcc) (k com : Nat) (verf : Bytes)
    (h : procWrite s c args = (s', .res ⟨0, .writeOk w k com verf⟩)) (hmax : s.cfg.maxFileSize > 0) :
    ∃ (off : Nat) (data : Bytes) (q : Fs.Path) (e : Fs.Entry),
      ((off + data.length : Nat) : Int) ≤ s.cfg.maxFileSize ∧
      (data = [] → s'.fs = s.fs) ∧
      (data ≠ [] → s'.fs = Fs.set s.fs q { e with data := Fs.writeBytes e.data off data } ∧
        ((Fs.writeBytes e.data off data).length : Int) ≤ max (e.data.length : Int) s.cfg.maxFileSize) := by
  cases procWrite_ok h with
  | mk _ _ _ _ _ hdata _ hmaxok _ _ _ hwa hfs =>
  obtain ⟨q, e, _, _, _, _, rfl⟩ := Fs.writeAt_ok hwa
  rw [← (take?_some hdata).2] at hmaxok
  have hle := (exceedsMax_false_iff ..).mp hmaxok
  refine ⟨_, _, q, e, ?_, fun h0 => by rw [hfs, if_pos h0], fun h0 => ⟨by rw [hfs, if_neg h0], ?_⟩⟩
  · omega
  · rw [Fs.writeBytes_length _ _ _ h0]
    omega

/-- SETATTR to a size beyond the limit: NFS3ERR_FBIG and the filesystem is as before. -/
theorem setattr_beyond_limit_refused (s : St) (c : Ctx) (args : Bytes) (h : Nat) (r1 r2 r3 : Bytes) (sa : Sattr3) (sz : Nat)
    (n : Node) (s1 : St) (pre : Attrs)
    (hro : s.cfg.readOnly = false) (hfh : decFh' s args = some (h, r1)) (hsa : decSattr3 r1 = some (sa, r2))
    (hguard : decU32 r2 = some (0, r3)) (hmode : badModeBit sa = false)
    (hn : nodeOf s h = some n) (hpre : getAttr s c.now n = (s1, .ok pre))
    (hsz : sa.size = some sz) (hle : sz ≤ maxInt64) (hbig : exceedsMax s.cfg sz = true) :
    procSetattr s c args = (s1, res 27 (.wcc wcc0)) ∧ s1.fs = s.fs := by
  have hac := getAttr_acOnly hpre
  refine ⟨?_, hac.fs⟩
  have hsize : setattrSize s1 h n pre (some sz) = .error 27 := by
    rw [setattrSize, if_neg (Nat.not_lt.mpr hle), hac.cfg, hbig, if_pos rfl]
  unfold procSetattr
  simp only [hro, Bool.false_eq_true, if_false, hfh, hsa, hguard, guardDecodes, decide_true, Bool.true_or, not_true_eq_false, hmode, hn, hpre,
    ne_eq, hsz, hsize]

/-- CREATE (UNCHECKED over an existing file) with a size beyond the limit changes nothing. -/
theorem create_size_beyond_limit_changes_nothing (s1 : St) (c : Ctx) (n : Node) (pre : Attrs) (p : Bytes) (info : Fs.Info)
    (how : Nat) (sa : Sattr3) (verf : Bytes) (sz : Nat) (hsz : sa.size = some sz) (hbig : exceedsMax s1.cfg sz = true) :
    (createExisting s1 c n pre p info how sa verf).1.fs = s1.fs := by
  rcases createExisting_fs s1 c n pre p info how sa verf with h | ⟨sz', _, hsz', hmax, _⟩
  · exact h
  · cases hsz.symm.trans hsz'
    rw [hbig] at hmax
    cases hmax

/-- Truncation to a size within the limit gives a file of exactly that size (≤ limit). -/
theorem truncate_size (d : Bytes) (n : Nat) : (Fs.truncBytes d n).length = n := Fs.truncBytes_length d n

/-- With no limit configured the test never fires: behaviour is that of the unlimited server. -/
theorem no_limit_no_refusal (c : Cfg) (size : Nat) (h : c.maxFileSize ≤ 0) : exceedsMax c size = false :=
  (exceedsMax_false_iff c size).mpr (.inl h)

/-- … and within the limit the test does not fire either: requests that stay within the limit take the same
    path as without it. -/
theorem within_limit_no_refusal (c : Cfg) (size : Nat) (h : (size : Int) ≤ c.maxFileSize) : exceedsMax c size = false :=
  (exceedsMax_false_iff c size).mpr (.inr h)

/-- History level (byte model): under a limit, whatever WRITE / SETATTR(size) operations arrive — accepted, or
    refused with the file unchanged, as the handlers do (theorems above) — a file that is within the limit stays
    within it after every history, of any length -/
theorem file_never_exceeds_limit (lim : Nat) (d : Bytes) (ops : List Fs.FileOp) (hd : d.length ≤ lim) :
    (ops.foldl (Fs.guardedOp lim) d).length ≤ lim := Fs.guarded_run_length_le lim d ops hd

/-- and a history in which no request ends beyond the limit leaves exactly the bytes of the unlimited server
    (the lock-step twin of the harness) -/
theorem limit_invisible_within (lim : Nat) (d : Bytes) (ops : List Fs.FileOp) (h : ∀ op ∈ ops, op.endsAt ≤ lim) :
    ops.foldl (Fs.guardedOp lim) d = ops.foldl Fs.applyFileOp d := Fs.guarded_run_eq_unguarded lim d ops h

/-- non-vacuity: limit 4; the write ending at 5 and the extension to 9 are refused, the rest applied -/
example : [Fs.FileOp.write 0 [1, 2], .write 3 [7, 7], .trunc 9, .write 2 [5, 6]].foldl (Fs.guardedOp 4) [] = [1, 2, 5, 6] := by
  decide

end Props.C25
