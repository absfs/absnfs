/-
  C01 — File data read back through the server equals the data written.
  The byte-array model of a file is the `data : List UInt8` of its entry in the backing filesystem model, with
  `writeBytes` (WriteAt), `truncBytes` (Truncate) and `slice` (ReadAt). Holes read as zeros by
  `writeBytes_getD` / `truncBytes_getD`. The statements are about `procRead` / `procWrite` of the Lean server model
  for every state, every argument byte string and every cache setting (the caches are part of the state and
  do not appear in the conclusions).
-/
import Absnfs.BytesSpec
import Absnfs.ServerData
import Absnfs.ServerShape
import Absnfs.ServerCreate
import Absnfs.ServerReadOnly
import Gen.Facts
open Absnfs Absnfs.Server

namespace Props.C01

/-- READ: count = min(requested, transfer size, size − offset); the bytes are the file's bytes at that offset;
    eof exactly when offset + count reaches the size; the reply's attributes report that size. -/
theorem read_returns_model_bytes (s s' : St) (c : Ctx) (args : Bytes) (o : Option Rfc.Fattr) (cntR : Nat) (eof : Bool)
    (data : Bytes) (h : procRead s c args = (s', .res ⟨0, .readOk o cntR eof data⟩)) :
    ∃ (hd off cnt : Nat) (r1 r2 r3 : Bytes) (n : Node) (q : Fs.Path) (e : Fs.Entry),
      decFh' s args = some (hd, r1) ∧ decU64 r1 = some (off, r2) ∧ decU32 r2 = some (cnt, r3) ∧
      nodeOf s hd = some n ∧ Fs.openRead s.fs (fsPath n.path) = .ok (q, e) ∧
      cntR = data.length ∧
      data.length = min (min cnt s.cfg.transfer) ((Fs.infoOf e).size - off) ∧
      (e.kind ≠ .dir → ∀ i, i < data.length → data.getD i 0 = e.data.getD (off + i) 0) ∧
      (∀ e', Fs.walk s.fs (fsPath n.path) = .ok e' → e'.kind = .file →
        e' = e ∧ eof = decide (off + cntR ≥ e.data.length) ∧
        ∃ a, o = some a ∧ a.size = e.data.length ∧ a.ftype = 1) := by
  cases procRead_ok h with
  | mk hfh hoff hcnt hn hopen hg ho hdata hlen heof =>
  subst ho hlen heof hdata
  refine ⟨_, _, _, _, _, _, _, _, _, hfh, hoff, hcnt, hn, hopen, rfl, readData_length .., fun _ _ => readData_getD, ?_⟩
  -- a regular file is itself what its path resolves to, so it is the entry READ opened, and GetAttr reports its
  -- length and type
  intro e' hw hk
  have hsz : (Fs.infoOf e').size = e'.data.length := Fs.infoOf_size (by rw [hk]; decide)
  cases (Fs.openRead_ok.mp hopen).symm.trans (Fs.follow_of_walk_nonlink hw (by rw [hk]; decide))
  obtain ⟨i, hi, rfl⟩ := getAttr_ok hg
  cases (Fs.lstat_of_walk hw).symm.trans hi
  exact ⟨rfl, by rw [← hsz]; rfl, _, rfl, hsz, congrArg kindCode hk⟩

theorem read_changes_nothing (s : St) (c : Ctx) (args : Bytes) : (procRead s c args).1.fs = s.fs :=
  procRead_fs s c args

/-- WRITE replying NFS3_OK with count k: k is the payload length, committed is FILE_SYNC with this instance's
    verifier, and the backend file is the old contents with exactly the payload stored at the offset
    (`writeBytes`: zero-filled hole, overwrite, tail kept); nothing else in the filesystem changes. -/
theorem write_stores_payload (s s' : St) (c : Ctx) (args : Bytes) (w : Rfc.Wcc) (k com : Nat) (verf : Bytes)
    (h : procWrite s c args = (s', .res ⟨0, .writeOk w k com verf⟩)) :
    ∃ (hd off cnt : Nat) (data : Bytes) (n : Node) (q : Fs.Path) (e : Fs.Entry),
      nodeOf s hd = some n ∧ data.length = cnt ∧ k = cnt ∧ com = 2 ∧ verf = s.cfg.writeVerf ∧
      Fs.follow s.fs (fsPath n.path) = (q, .ok e) ∧ e.kind ≠ .dir ∧
      (data = [] → s'.fs = s.fs) ∧
      (data ≠ [] → s'.fs = Fs.set s.fs q { e with data := Fs.writeBytes e.data off data }) := by
  cases procWrite_ok h with
  | mk _ _ _ _ _ hdata _ _ hn _ _ hwa hfs _ _ _ hcom hverf =>
  obtain ⟨q, e, hfol, hkind, hk, _, rfl⟩ := Fs.writeAt_ok hwa
  have hlen := (take?_some hdata).2
  exact ⟨_, _, _, _, _, q, e, hn, hlen, by rw [hk, hlen], hcom, hverf, hfol, hkind, fun h0 => by rw [hfs, if_pos h0],
    fun h0 => by rw [hfs, if_neg h0]⟩

/-- the byte at every position after a write: the payload inside the written range, the old byte elsewhere,
    zero in a hole -/
theorem bytes_after_write (d : Bytes) (off : Nat) (w : Bytes) (i : Nat) (hw : w ≠ []) :
    (Fs.writeBytes d off w).getD i 0 = if off ≤ i ∧ i < off + w.length then w.getD (i - off) 0 else d.getD i 0 :=
  Fs.writeBytes_getD d off w i

theorem size_after_write (d : Bytes) (off : Nat) (w : Bytes) (hw : w ≠ []) :
    (Fs.writeBytes d off w).length = max d.length (off + w.length) := Fs.writeBytes_length d off w hw

/-- SETATTR(size) / CREATE(size) go through Truncate: cut, or extended with zeros -/
theorem bytes_after_truncate (d : Bytes) (n i : Nat) :
    (Fs.truncBytes d n).getD i 0 = if i < n then d.getD i 0 else 0 := Fs.truncBytes_getD d n i

theorem size_after_truncate (d : Bytes) (n : Nat) : (Fs.truncBytes d n).length = n := Fs.truncBytes_length d n

/-- The property's headline, end to end over the two handlers, in every state satisfying the server invariant
    (hence after every history, under every cache setting): a WRITE acknowledged with count k > 0, then a READ of
    the same handle, offset and count — from any caller, at any later time with nothing in between — returns
    exactly the payload bytes the WRITE request carried, and reports their number. -/
theorem read_after_write (s s1 s2 : St) (c c' : Ctx) (wargs rargs : Bytes) (w : Rfc.Wcc) (k com : Nat) (verf : Bytes)
    (o : Option Rfc.Fattr) (cntR : Nat) (eof : Bool) (rdata : Bytes) (hinv : CInv s)
    (hw : procWrite s c wargs = (s1, .res ⟨0, .writeOk w k com verf⟩))
    (hr : procRead s1 c' rargs = (s2, .res ⟨0, .readOk o cntR eof rdata⟩))
    (hd off : Nat) (w1 w2 q1 q2 q3 : Bytes)
    (hw1 : decFh' s wargs = some (hd, w1)) (hw2 : decU64 w1 = some (off, w2))
    (hr1 : decFh' s1 rargs = some (hd, q1)) (hr2 : decU64 q1 = some (off, q2)) (hr3 : decU32 q2 = some (k, q3))
    (hk : 0 < k) :
    ∀ (cnt stable dlen : Nat) (r3 r4 r5 rest data : Bytes), decU32 w2 = some (cnt, r3) → decU32 r3 = some (stable, r4) →
      decU32 r4 = some (dlen, r5) → take? cnt r5 = some (data, rest) → rdata = data ∧ cntR = data.length :=
  Server.read_after_write s s1 s2 c c' wargs rargs w k com verf o cntR eof rdata hinv hw hr hd off w1 w2 q1 q2 q3 hw1 hw2 hr1 hr2 hr3 hk

/-- SETATTR at handler level: an NFS3_OK reply to a SETATTR with an explicit size means the object the handle
    names now holds its old bytes cut or zero-extended to that size, and no other object's contents changed —
    whatever mode, owner and time fields the request also carried; a SETATTR without a size changes no contents. -/
theorem setattr_size_truncates (s s' : St) (c : Ctx) (args : Bytes) (body : Rfc.Body)
    (heq : procSetattr s c args = (s', .res ⟨0, body⟩)) :
    ∃ (hd : Nat) (r1 r2 : Bytes) (sa : Sattr3) (n : Node), decFh' s args = some (hd, r1) ∧ decSattr3 r1 = some (sa, r2) ∧
      nodeOf s hd = some n ∧
      (sa.size = none → ∀ q, Fs.contentAt s'.fs q = Fs.contentAt s.fs q) ∧
      (∀ sz, sa.size = some sz → ∃ q0 e0, Fs.follow s.fs (fsPath n.path) = (q0, .ok e0) ∧
        ∀ q, Fs.contentAt s'.fs q = if q = q0 then some (e0.kind, Fs.truncBytes e0.data sz) else Fs.contentAt s.fs q) := by
  cases heq ▸ procSetattr_run s c args with
  | refused hr => exact hr.not_ok.elim
  | run _ hfh hsa _ _ hn hrun =>
    cases hrun with
    | attrFailed _ hr => exact (errno_not_ok hr).elim
    | guarded _ _ hr => cases hr
    | sizeFailed _ _ hsz hr => exact absurd (res_inj hr).2.1.symm (setattrSize_status hsz).1
    | sized hg _ hsz hr =>
      -- the size part is Truncate on the backend as GetAttr left it, which is as the request found it;
      -- the rest of SETATTR keeps contents
      have hfs := (getAttr_acOnly hg).fs
      have hfin := setattrApply_content hr.symm
      refine ⟨_, _, _, _, _, hfh, hsa, hn, ?_⟩
      rcases setattrSize_ok hsz with ⟨h0, rfl⟩ | ⟨sz, fs1, h0, _, _, _, htr, rfl⟩
      · exact ⟨fun _ q => (hfin q).trans (by rw [hfs]), fun _ h => nomatch h0.symm.trans h⟩
      · obtain ⟨q0, e0, hf, _, _, rfl⟩ := Fs.truncate_ok htr
        refine ⟨(fun h => nomatch h0.symm.trans h), fun _ h => ?_⟩
        cases h0.symm.trans h
        exact ⟨q0, e0, hfs ▸ hf, fun q => (hfin q).trans (by rw [refreshSize_fs, ← hfs]; exact Fs.contentAt_set ..)⟩

/-- CREATE over an existing file without an explicit size leaves its bytes alone (C03's theorem, restated for data) -/
theorem create_keeps_data (s1 : St) (c : Ctx) (n : Node) (pre : Attrs) (p : Bytes) (info : Fs.Info) (how : Nat)
    (sa : Sattr3) (verf : Bytes) (h : how = 2 ∨ sa.size = none) :
    (createExisting s1 c n pre p info how sa verf).1.fs = s1.fs :=
  createExisting_untouched s1 c n pre p info how sa verf h

/-- a SETATTR carrying a guard (a ctime the object does not have) changes nothing — not the size either — and is not
    answered NFS3_OK, whatever else the request asks for -/
theorem guarded_setattr_changes_nothing (s : St) (c : Ctx) (args : Bytes) (h : Nat) (r1 r2 r3 : Bytes) (sa : Sattr3) (guard : Nat)
    (h1 : decFh' s args = some (h, r1)) (h2 : decSattr3 r1 = some (sa, r2)) (h3 : decU32 r2 = some (guard, r3))
    (hg : guard ≠ 0) :
    (procSetattr s c args).1.fs = s.fs ∧ ∃ st b, (procSetattr s c args).2 = res st b ∧ st ≠ 0 := by
  cases procSetattr_run s c args with
  | refused hr => obtain ⟨st, hst, _, hr⟩ := hr; rw [hr]; exact ⟨rfl, st, _, rfl, hst⟩
  | run _ hfh hsa hguard _ _ hrun =>
    cases h1.symm.trans hfh; cases h2.symm.trans hsa; cases h3.symm.trans hguard
    cases hrun with
    | attrFailed hga hr => rw [hr]; exact ⟨(getAttr_acOnly hga).fs, _, _, rfl, mapErrno_ne_zero _⟩
    | guarded hga _ hr => rw [hr]; exact ⟨(getAttr_acOnly hga).fs, _, _, rfl, by decide⟩
    | sizeFailed _ h0 _ _ | sized _ h0 _ _ => exact absurd h0 hg

/-- READ and WRITE refuse a range only when offset + count leaves the 64-bit range (the model's `off + cnt ≥ u64Max`
    test); a range that passes 2^63-1 from a valid offset is "beyond EOF" (regenerated from handleRead / handleWrite) -/
theorem gen_range_guards : (Gen.readRangeGuardIsUint64 && Gen.writeRangeGuardIsUint64) = true := by decide

/-- The byte-array model of the property as a specification (a size and a byte at every position), and the
    refinement for every history of WriteAt / Truncate calls, of any length: the backend model's bytes stand for
    exactly what the specification computes -/
theorem file_refines_byte_array_spec (d : Bytes) (ops : List Fs.FileOp) :
    Fs.absBytes (ops.foldl Fs.applyFileOp d) = ops.foldl Fs.Spec.step (Fs.absBytes d) := Fs.absBytes_run d ops

/-- READ's data is determined by the specification: min(count, size - offset) bytes, byte i = spec byte offset+i -/
theorem read_data_from_spec (d : Bytes) (off cnt : Nat) :
    (Fs.slice d off cnt).length = min cnt ((Fs.absBytes d).size - off) ∧
    ∀ i, i < cnt → (Fs.slice d off cnt).getD i 0 = (Fs.absBytes d).byte (off + i) := Fs.slice_from_spec d off cnt

/-- nothing is lost in the abstraction: byte strings that stand for the same specification file are equal -/
theorem spec_determines_bytes {a b : Bytes} (h : Fs.absBytes a = Fs.absBytes b) : a = b := Fs.absBytes_injective h

/-- holes are zeros: a write beyond the old end leaves zeros between the old end and its offset -/
theorem hole_reads_zero (d : Bytes) (off : Nat) (w : Bytes) (hw : w ≠ []) (i : Nat) (h1 : d.length ≤ i) (h2 : i < off) :
    (Fs.writeBytes d off w).getD i 0 = 0 := Fs.hole_reads_zero d off w hw i h1 h2

/-- overlapping writes: the later payload decides its whole range, the earlier one keeps what lies outside it -/
theorem overlapping_writes (d : Bytes) (o1 o2 : Nat) (w1 w2 : Bytes) (h1 : w1 ≠ []) (h2 : w2 ≠ []) (i : Nat) :
    (Fs.writeBytes (Fs.writeBytes d o1 w1) o2 w2).getD i 0 =
      if o2 ≤ i ∧ i < o2 + w2.length then w2.getD (i - o2) 0
      else if o1 ≤ i ∧ i < o1 + w1.length then w1.getD (i - o1) 0 else d.getD i 0 := by
  rw [Fs.writeBytes_getD, Fs.writeBytes_getD]

/-- non-vacuity: sparse write, overlapping write, cut, extension -/
example : [Fs.FileOp.write 3 [7, 8], .write 4 [9, 9], .trunc 5, .trunc 7].foldl Fs.applyFileOp [1] = [1, 0, 0, 7, 9, 0, 0] := by
  decide

end Props.C01
