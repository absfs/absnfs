/-
  C13 — XDR, RPC and record-marking codecs are exact and bounded.
  Property theorems only (helper lemmas live in Absnfs/*.lean). Limits are the constants the extractor
  read from /repo's current source (Gen.*); the first group checks them against the documented values.
-/
import Absnfs.Rpc
import Absnfs.RecordMark
import Gen.Facts
open Absnfs

namespace Props.C13

/-! ### Obligations on regenerated facts (break when the source's limits or check order change) -/

theorem gen_limits :
    Gen.maxXdrString = 8192 ∧ Gen.maxRpcAuth = 400 ∧ Gen.fhMax = 64 ∧ Gen.fhLen = 8 ∧
    Gen.maxAuxGids = 16 ∧ Gen.defaultMaxRecordSize = 1048576 ∧ Gen.lastFragmentFlag = 2147483648 := by
  decide

/-- every decoder compares the declared length with the named constant … -/
theorem gen_checks_use_limits :
    Gen.xdrStringLimitCheck = Gen.maxXdrString ∧ Gen.credLimitCheck = Gen.maxRpcAuth ∧
    Gen.verfLimitCheck = Gen.maxRpcAuth ∧ Gen.brStringLimitCheck = Gen.maxXdrString := by
  decide

/-- … and does so before the first allocation of that size. -/
theorem gen_check_before_make :
    (Gen.xdrStringLimitCheckBeforeMake && Gen.credLimitCheckBeforeMake && Gen.verfLimitCheckBeforeMake &&
     Gen.fhMaxBeforeMake && Gen.maxAuxGidsBeforeMake && Gen.brStringLimitCheckBeforeMake &&
     Gen.recordLimitBeforeMake) = true := by
  decide

theorem gen_fragment_defaults :
    0 < Gen.defaultMaxFragmentSize ∧ Gen.defaultMaxFragmentSize < 2147483648 ∧
    Gen.maxFragmentSize = 2147483647 := by decide

theorem u32_roundtrip (n : Nat) (h : n < 4294967296) (rest : Bytes) :
    decU32 (encU32 n ++ rest) = some (n, rest) := decU32_encU32 n h rest

theorem u64_roundtrip (n : Nat) (h : n < 18446744073709551616) (rest : Bytes) :
    decU64 (encU64 n ++ rest) = some (n, rest) := decU64_encU64 n h rest

/-- Strings up to the limit without NUL decode to exactly what was encoded, leaving `rest`. -/
theorem string_roundtrip (s rest : Bytes) (hl : s.length ≤ Gen.maxXdrString) (hn : (0 : UInt8) ∉ s) :
    decString Gen.maxXdrString (encOpaque s ++ rest) = some (s, rest) :=
  decString_encOpaque _ s rest hl (Nat.lt_of_le_of_lt hl (by decide)) hn

/-- Whatever a string decoder accepts consumed exactly 4 + len + pad bytes. -/
theorem string_consumes_padded {bs s r : Bytes} (h : decString Gen.maxXdrString bs = some (s, r)) :
    bs.length = 4 + s.length + pad4 s.length + r.length ∧ (s.length + pad4 s.length) % 4 = 0 ∧
    s.length ≤ Gen.maxXdrString := by
  have hd := (decString_eq_some_iff.1 h).1
  obtain ⟨_, _, _, hl, _⟩ := decOpaque_eq_some_iff.1 hd
  exact ⟨decOpaque_consumes hd, pad4_spec _, hl⟩

theorem string_encoded_length (s : Bytes) : (encOpaque s).length = 4 + s.length + pad4 s.length :=
  encOpaque_length s

/-- Declared lengths beyond the limit are rejected and nothing is allocated. -/
theorem string_oversize_rejected (n : Nat) (rest : Bytes) (h : Gen.maxXdrString < n) (h32 : n < 4294967296) :
    decString Gen.maxXdrString (encU32 n ++ rest) = none ∧
    decOpaqueAllocs Gen.maxXdrString (encU32 n ++ rest) = [] := by
  have := decOpaque_oversize Gen.maxXdrString n rest h h32
  simp [decString, this]

theorem string_allocs_bounded (bs : Bytes) :
    ∀ a ∈ decOpaqueAllocs Gen.maxXdrString bs, a ≤ Gen.maxXdrString ∨ a < 4 :=
  decOpaqueAllocs_bounded _ bs

/-- No decoder accepts a proper prefix (truncation) of a valid encoding. -/
theorem string_truncation_rejected (s : Bytes) (k : Nat) (hk : k < (encOpaque s).length)
    (hl : s.length ≤ Gen.maxXdrString) :
    decString Gen.maxXdrString ((encOpaque s).take k) = none := by
  unfold decString
  rw [decOpaque_prefix _ s k hk hl (Nat.lt_of_le_of_lt hl (by decide))]

theorem filehandle_roundtrip (h : Nat) (rest : Bytes) (h64 : h < 18446744073709551616) :
    decFh Gen.fhMax Gen.fhLen (encFh h ++ rest) = some (h, rest) :=
  decFh_encFh Gen.fhMax h rest (by decide) h64

theorem filehandle_consumes {bs r : Bytes} {h : Nat} (hd : decFh Gen.fhMax Gen.fhLen bs = some (h, r)) :
    bs.length = r.length + 12 := by
  obtain ⟨_, _, rfl⟩ := decFh_eq_some_iff.1 hd
  simp [encFh]; omega

/-- a refused file handle keeps the stream in sync: a complete XDR opaque of any wrong size up to the limit is
    skipped together with its padding (what follows it is what the next decoder sees), an over-limit length is
    refused with nothing more read -/
theorem refused_filehandle_keeps_sync (data rest : Bytes) (hl : data.length ≤ Gen.fhMax) (hne : data.length ≠ Gen.fhLen) :
    decFh Gen.fhMax Gen.fhLen (encOpaque data ++ rest) = none ∧
    decFhRest Gen.fhMax Gen.fhLen (encOpaque data ++ rest) = rest :=
  decFh_refused _ _ data rest (by decide) hl hne

theorem filehandle_allocs_bounded (bs : Bytes) :
    ∀ a ∈ decFhAllocs Gen.fhMax Gen.fhLen bs, a ≤ Gen.fhMax + 3 := decFhAllocs_bounded _ _ bs

theorem sattr3_roundtrip (s : Sattr3) (rest : Bytes) (h : s.WF) :
    decSattr3 (encSattr3 s ++ rest) = some (s, rest) := decSattr3_encSattr3 s rest h

/-- RPC call header (credential and verifier bodies up to 400 bytes). -/
theorem call_roundtrip (c : RpcCall) (rest : Bytes) (h : c.WF Gen.maxRpcAuth) :
    decCall Gen.maxRpcAuth (encCall c ++ rest) = some (c, rest) :=
  decCall_encCall _ c rest h (by decide)

theorem call_allocs_bounded (bs : Bytes) :
    ∀ a ∈ decCallAllocs Gen.maxRpcAuth bs, a ≤ Gen.maxRpcAuth ∨ a < 4 := decCallAllocs_bounded _ bs

theorem auth_oversize_rejected (fl n : Nat) (rest : Bytes) (hf : fl < 4294967296)
    (h : Gen.maxRpcAuth < n) (h32 : n < 4294967296) :
    decAuth Gen.maxRpcAuth (encU32 fl ++ encU32 n ++ rest) = none := by
  simp only [decAuth, List.append_assoc, decU32_encU32 _ hf, (decOpaque_oversize _ n rest h h32).1]

/-- AUTH_SYS bodies with at most 16 auxiliary gids decode to exactly what was encoded. -/
theorem authsys_roundtrip (a : AuthSys) (h : a.WF Gen.maxXdrString Gen.maxAuxGids) :
    parseAuthSys Gen.maxXdrString Gen.maxAuxGids (encAuthSys a) = some a :=
  parseAuthSys_encAuthSys _ _ a h (by decide) (by decide)

theorem authsys_too_many_gids (stamp uid gid cnt : Nat) (machine tail : Bytes)
    (h1 : stamp < 4294967296) (h2 : machine.length ≤ Gen.maxXdrString) (h3 : uid < 4294967296)
    (h4 : gid < 4294967296) (hc : Gen.maxAuxGids < cnt) (hc32 : cnt < 4294967296) :
    parseAuthSys Gen.maxXdrString Gen.maxAuxGids
      (encU32 stamp ++ encOpaque machine ++ encU32 uid ++ encU32 gid ++ encU32 cnt ++ tail) = none :=
  by rw [parseAuthSys_fixed_part _ _ _ _ _ _ _ _ h1 h2 h3 h4 hc32 (by decide), if_pos hc]

/-- The reply the server writes decodes exactly (no missing or trailing bytes) as an RFC 1831 reply. -/
theorem reply_roundtrip (r : RpcReply) (h : r.WF Gen.maxRpcAuth) :
    decReply Gen.maxRpcAuth (encReply r) = r.view := decReply_encReply _ r h (by decide)

/-- Any fragmentation of a record up to the record limit reassembles into the original bytes. -/
theorem record_reassembly (pieces : List Bytes) (rest : Bytes) (hne : pieces ≠ [])
    (hsz : pieces.flatten.length ≤ Gen.defaultMaxRecordSize)
    (h31 : ∀ p ∈ pieces, p.length < 2147483648) :
    readRecord Gen.defaultMaxRecordSize (frame pieces ++ rest) = some (pieces.flatten, rest) :=
  readRecord_frame _ pieces rest hne hsz h31

/-- Writing then reading a record is the identity (default fragment size). -/
theorem record_write_read (d rest : Bytes) (hd : d.length ≤ Gen.defaultMaxRecordSize) :
    readRecord Gen.defaultMaxRecordSize (writeRecord Gen.defaultMaxFragmentSize d ++ rest) = some (d, rest) :=
  readRecord_writeRecord _ _ d rest (by decide) (by decide) hd

/-- A record that would exceed the limit is refused before its fragment is allocated,
    and the allocations of any read never add up to more than the limit. -/
theorem record_oversize_rejected (fuel : Nat) (acc : Bytes) (hdr : Nat) (rest : Bytes)
    (h32 : hdr < 4294967296) (hbig : acc.length + hdr % 2147483648 > Gen.defaultMaxRecordSize) :
    readFrags (fuel + 1) Gen.defaultMaxRecordSize acc (encU32 hdr ++ rest) = none ∧
    readFragsAllocs (fuel + 1) Gen.defaultMaxRecordSize acc.length (encU32 hdr ++ rest) = [] :=
  readFrags_oversize fuel _ acc hdr rest h32 hbig

theorem record_allocs_bounded (fuel : Nat) (bs : Bytes) :
    (readFragsAllocs fuel Gen.defaultMaxRecordSize 0 bs).sum ≤ Gen.defaultMaxRecordSize := by
  have := readFragsAllocs_sum fuel Gen.defaultMaxRecordSize 0 bs (Nat.zero_le _)
  omega

/-! ### Non-vacuity: concrete values meet the hypotheses -/

example : decString Gen.maxXdrString (encOpaque [97, 98, 99] ++ [255]) = some ([97, 98, 99], [255]) := by
  decide
example : ({ xid := 7, rpcVers := 2, prog := 100003, vers := 3, proc := 1,
             cred := ⟨1, [0, 0, 0, 1]⟩, verf := ⟨0, []⟩ } : RpcCall).WF Gen.maxRpcAuth := by
  simp [RpcCall.WF, OpaqueAuth.WF]; decide
example : readRecord Gen.defaultMaxRecordSize (frame [[1, 2], [3]] ++ [9]) = some ([1, 2, 3], [9]) := by
  decide
example : ({ stamp := 1, machine := [104], uid := 1000, gid := 1000, gids := [4, 24] } : AuthSys).WF
    Gen.maxXdrString Gen.maxAuxGids := by
  simp [AuthSys.WF]; decide

end Props.C13
