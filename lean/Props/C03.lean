/-
  C03 — CREATE never destroys or silently reuses an existing file.
  Statements about `procCreate` of the Lean server model for every create mode, every kind of existing object,
  every sattr3 and verifier, in every state. "Untouched" is equality of the whole backing filesystem.
  The EXCLUSIVE statement is the one the code can meet: NFS3_OK over an existing object is given only when
  the verifier table accepts the verifier — the creating verifier for a path this server created
  exclusively, and (known finding C03/exclusive-over-foreign-object, required by the repository's tests) any
  verifier for a path without a record.
-/
import Absnfs.ServerCreate
import Absnfs.FsLemmas
import Gen.Facts
open Absnfs Absnfs.Server

namespace Props.C03

theorem gen_lookup_first : Gen.createLooksUpFirst = true := by decide

/-- every well-formed CREATE of a taken name is decided by `createExisting` on an unchanged filesystem -/
theorem create_of_taken_name (s : St) (c : Ctx) (args : Bytes) (h : Nat) (r1 r2 r3 name : Bytes) (how : Nat) (sa : Sattr3)
    (verf : Bytes) (n : Node) (s1 : St) (pre : Attrs) (info : Fs.Info)
    (hro : s.cfg.readOnly = false) (hfh : decFh' s args = some (h, r1)) (hname : decStr s r1 = some (name, r2))
    (hvalid : validateFilename name = 0) (hhow : decU32 r2 = some (how, r3))
    (hparse : parseCreateHow how r3 = some (sa, verf)) (hmode : validateMode (sa.mode.getD 0o644) = 0)
    (hn : nodeOf s h = some n) (hpre : getAttr s c.now n = (s1, .ok pre))
    (hlstat : Fs.lstat s1.fs (fsPath (joinName n.path name)) = .ok info) :
    procCreate s c args = createExisting s1 c n pre (joinName n.path name) info how sa verf ∧ s1.fs = s.fs := by
  refine ⟨?_, (getAttr_acOnly hpre).fs⟩
  unfold procCreate
  simp only [hro, Bool.false_eq_true, if_false, hfh, hname, hvalid, ne_eq, not_true_eq_false, hhow]
  simp only [hparse, hmode, not_true_eq_false, if_false, hn, hpre, hlstat]

/-- GUARDED over anything that exists, any mode over a directory or symlink, EXCLUSIVE with a verifier the
    table refuses: NFS3ERR_EXIST and the backing filesystem is untouched. -/
theorem guarded_or_nonregular_or_foreign_verifier_exist (s1 : St) (c : Ctx) (n : Node) (pre : Attrs) (p : Bytes)
    (info : Fs.Info) (how : Nat) (sa : Sattr3) (verf : Bytes)
    (h : how = 1 ∨ info.kind ≠ .file ∨ (how = 2 ∧ sameExclusive s1 p verf = false)) :
    outStatus (createExisting s1 c n pre p info how sa verf).2 = some 17 ∧
    (createExisting s1 c n pre p info how sa verf).1.fs = s1.fs := by
  unfold createExisting
  cases createStep1_run s1 p info how sa verf with
  | exist _ hr => rw [hr]; exact ⟨createFinish_status s1 17 c n pre p (by decide), createFinish_fs s1 17 c n pre p⟩
  | proceed h1 hk hv _ =>
    rcases h with h | h | ⟨h, hs⟩
    · exact absurd h h1
    · exact absurd hk h
    · rw [hv h] at hs; cases hs

/-- No create mode touches anything unless the request sets a size: EXCLUSIVE never does, UNCHECKED and GUARDED
    without sattr3.size never do — whatever the reply. -/
theorem no_size_no_change (s1 : St) (c : Ctx) (n : Node) (pre : Attrs) (p : Bytes) (info : Fs.Info) (how : Nat)
    (sa : Sattr3) (verf : Bytes) (h : how = 2 ∨ sa.size = none) :
    (createExisting s1 c n pre p info how sa verf).1.fs = s1.fs :=
  createExisting_untouched s1 c n pre p info how sa verf h

/-- With an explicit size the only possible effect is cutting / zero-extending that one file to that size. -/
theorem explicit_size_only_truncates (s1 : St) (c : Ctx) (n : Node) (pre : Attrs) (p : Bytes) (info : Fs.Info)
    (how : Nat) (sa : Sattr3) (verf : Bytes) (sz : Nat) (hsz : sa.size = some sz) :
    (createExisting s1 c n pre p info how sa verf).1.fs = s1.fs ∨
    ∃ q e, Fs.follow s1.fs (fsPath p) = (q, .ok e) ∧ e.kind ≠ .dir ∧
      (createExisting s1 c n pre p info how sa verf).1.fs = Fs.set s1.fs q { e with data := Fs.truncBytes e.data sz } := by
  rcases createExisting_fs s1 c n pre p info how sa verf with h | ⟨sz', _, hsz', _, ht⟩
  · exact .inl h
  · cases hsz.symm.trans hsz'
    obtain ⟨q, e, hf, hk, _, hfs⟩ := Fs.truncate_ok ht
    exact .inr ⟨q, e, hf, hk, hfs⟩

/-- EXCLUSIVE over an existing object succeeds only for a regular file whose recorded creating verifier (if
    any) is this one. -/
theorem exclusive_ok_only_if_accepted (s1 : St) (c : Ctx) (n : Node) (pre : Attrs) (p : Bytes) (info : Fs.Info)
    (sa : Sattr3) (verf : Bytes) (h : outStatus (createExisting s1 c n pre p info 2 sa verf).2 = some 0) :
    info.kind = .file ∧ sameExclusive s1 p verf = true := by
  have h0 : (createStep1 s1 p info 2 sa verf).2 = 0 := createFinish_ok_only_from_zero _ _ c n pre p h
  cases createStep1_run s1 p info 2 sa verf with
  | exist _ hr => rw [hr] at h0; cases h0
  | proceed _ hk hv _ => exact ⟨hk, hv rfl⟩

/-- After this server created `p` exclusively with `verf`, the table accepts `v2` for `p` iff `v2 = verf`. -/
theorem table_accepts_only_creator (s : St) (p verf v2 : Bytes) :
    sameExclusive (rememberExclusive s p verf) p v2 = (verf == v2) :=
  sameExclusive_after_remember s p verf v2

/-- KNOWN FINDING (exclusive-over-foreign-object): without a record the table accepts every verifier. -/
theorem foreign_object_accepted (s : St) (p verf : Bytes) (h : s.excl.find? (·.1 == p) = none) :
    sameExclusive s p verf = true := by
  unfold sameExclusive; rw [h]

/-! non-vacuity: a concrete server state with the file /t (3 bytes) and a handle for "/" -/
def exCfg : Cfg :=
  { transfer := 65536, readOnly := false, maxFileSize := 0, squash := .none, maxStr := 8192, fhMax := 64,
    defaultMaxHandles := 100000, evictDivisor := 10, dcMaxDirSize := 10000, maxRecord := 1048576, writeVerf := [0,0,0,0,0,0,0,1] }
def exFs : Fs.T :=
  { ents := [([], ⟨.dir, 0o755, 0, 0, [], 1⟩), ([[116]], ⟨.file, 0o644, 0, 0, [1, 2, 3], 2⟩)], nextIno := 3, maxSize := 67108864 }
def exSt : St :=
  { fs := exFs, hs := { live := [(1, [47])], free := [], next := 2, maxRaw := 0 }, nodes := [(1, ⟨.dir, 0o755, 0, 0, 0, 0⟩)],
    ac := { entries := [], cap := 10, ttl := 5000000000, negTtl := 5000000000, enableNeg := false, hitAtEq := false },
    dc := none, excl := [], cfg := exCfg }
def exCtx : Ctx := { now := 1000, uid := 0, gid := 0, aux := [] }
/-- CREATE(dir = handle 1, name = "t", GUARDED, empty sattr3) -/
def exArgsGuarded : Bytes := encFh 1 ++ encOpaque [116] ++ encU32 1 ++ encSattr3 {}
/-- CREATE(dir = handle 1, name = "t", UNCHECKED, empty sattr3) -/
def exArgsUnchecked : Bytes := encFh 1 ++ encOpaque [116] ++ encU32 0 ++ encSattr3 {}

example : outStatus (procCreate exSt exCtx exArgsGuarded).2 = some 17 ∧ (procCreate exSt exCtx exArgsGuarded).1.fs.ents = exFs.ents := by
  decide +kernel
example : outStatus (procCreate exSt exCtx exArgsUnchecked).2 = some 0 ∧ (procCreate exSt exCtx exArgsUnchecked).1.fs.ents = exFs.ents := by
  decide +kernel

end Props.C03
