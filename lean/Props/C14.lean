/-
  C14 — Every reply is a well-formed RFC 1813 / RFC 1831 reply.
  Two layers. (1) The RPC reply message: `Rpc.decReply` is the exact RFC 1831 decoder (no missing or trailing
  bytes, XID echoed), and C13's `decReply_encReply` is restated here for EncodeRPCReply's model. (2) The
  results: the Lean server model produces, for every state, credential and argument byte string, a result whose
  body has the RFC 1813 shape of its procedure and status, with a status in nfsstat3 — or 4 (known finding
  C14/nfsstat-garbage-args, required by the repository's tests). The same for the answers given during a policy
  drain, for MOUNT (mountstat3), and for rate-limited calls (status constants regenerated from the source).
  `Rfc.decResWith true` — the decoder the harness applies to every real reply — accepts only such results.
-/
import Absnfs.ServerShape
import Absnfs.Rpc
import Gen.Facts
open Absnfs Absnfs.Server

namespace Props.C14

/-- the procedure table of the real dispatcher is 0..21, as the model's -/
theorem gen_proc_table : Gen.nfsProcTable = List.range 22 := by decide

/-- every NFSERR_* constant of the source is a member of nfsstat3, except NFSERR_WFLUSH = 99 (NFSv2's; defined,
    never used) -/
theorem gen_status_constants : ∀ st ∈ Gen.nfsStatusConstants, st ∈ Rfc.nfsstat3 ∨ st = 99 := by decide

/-- (1) the RPC reply: encoded by EncodeRPCReply's model, decoded exactly by the RFC 1831 decoder, same XID -/
theorem rpc_reply_roundtrip (maxAuth : Nat) (r : RpcReply) (h : r.WF maxAuth) (hm : maxAuth < 4294967296) :
    decReply maxAuth (encReply r) = r.view := decReply_encReply maxAuth r h hm

/-- (2) NFS results: shape of the procedure for the status, status in nfsstat3 (or 4: known finding) -/
theorem nfs_result_well_formed (s : St) (c : Ctx) (proc : Nat) (args : Bytes) :
    Good proc (handleNfs s c proc args).2 := by
  fun_cases handleNfs s c proc args
  · exact good_ok rfl
  · exact procGetattr_good s c args
  · exact procSetattr_good s c args
  · exact procLookup_good s c args
  · exact procAccess_good s c args
  · exact procReadlink_good s c args
  · exact procRead_good s c args
  · exact procWrite_good s c args
  · exact procCreate_good s c args
  · exact procMkdir_good s c args
  · exact procSymlink_good s c args
  · exact good_fail rfl (by decide) (by decide)  -- MKNOD: NFS3ERR_NOTSUPP
  · exact procRemove_good s c args
  · exact procRmdir_good s c args
  · exact procRename_good s c args
  · exact good_fail rfl (by decide) (by decide)  -- LINK: NFS3ERR_NOTSUPP
  · exact procReaddir_good s c args
  · exact procReaddirplus_good s c args
  · exact withObjAttr_good 18 s c args _ (fun _ => rfl) rfl
  · exact withObjAttr_good 19 s c args _ (fun _ => rfl) rfl
  · exact withObjAttr_good 20 s c args _ (fun _ => rfl) rfl
  · exact procCommit_good s c args
  · trivial

/-- … MOUNT results: MNT answers a mountstat3 member (or MNT3_OK with an 8-byte handle and one flavor), the
    other procedures their status-less results -/
theorem mount_result_well_formed (s : St) (c : Ctx) (proc : Nat) (args : Bytes) :
    MountGood proc (handleMount s c proc args).2 := by
  fun_cases handleMount s c proc args
  · trivial
  · exact procMnt_good s c args
  all_goals trivial

/-- … unknown programs, versions and procedures are RPC-level errors, not results -/
theorem unknown_is_rpc_error (s : St) (c : Ctx) (prog vers proc : Nat) (args : Bytes) :
    (prog ≠ 100003 → prog ≠ 100005 → (handle s c prog vers proc args).2 = .progUnavail) ∧
    (prog = 100003 → vers ≠ 3 → (handle s c prog vers proc args).2 = .progMismatch) ∧
    (22 ≤ proc → (handleNfs s c proc args).2 = .procUnavail) := by
  refine ⟨fun h1 h2 => ?_, fun h1 h2 => ?_, fun h => ?_⟩
  · rw [handle, if_neg h2, if_neg h1]
  · rw [handle, if_neg (by omega), if_pos h1, if_pos h2]
  · fun_cases handleNfs s c proc args
    iterate 22 exact absurd h (by decide)
    rfl

/-- … the answers given while a policy update drains: NFS3ERR_JUKEBOX in the procedure's failure shape (NULL is
    answered normally); MNT gets MNT3ERR_SERVERFAULT -/
theorem drain_answer_well_formed (proc : Nat) : Good proc (busy 100003 3 proc) := by
  have hpost : ∀ p ∈ [3, 4, 5, 6, 16, 17, 18, 19, 20], failShape p (.postOp none) = true := by decide
  have hwcc : ∀ p ∈ [2, 7, 8, 9, 10, 11, 12, 13, 21], failShape p (.wcc wcc0) = true := by decide
  fun_cases busy 100003 3 proc
  · contradiction
  · subst proc; exact good_ok rfl
  · subst proc; exact good_fail rfl (by decide) (by decide)
  · exact good_fail (hpost _ ‹_›) (by decide) (by decide)
  · exact good_fail (hwcc _ ‹_›) (by decide) (by decide)
  · subst proc; exact good_fail rfl (by decide) (by decide)
  · subst proc; exact good_fail rfl (by decide) (by decide)
  · trivial
  -- the branches of the other programs
  all_goals contradiction
theorem drain_answer_mount (vers proc : Nat) (hv : vers = 1 ∨ vers = 3) : MountGood proc (busy 100005 vers proc) := by
  fun_cases busy 100005 vers proc
  -- the branches of the NFS program, then the version test
  iterate 8 contradiction
  · omega
  · rename_i h; rcases h with rfl | rfl | rfl <;> trivial
  · subst proc; exact ⟨by decide, by decide⟩
  · subst proc; trivial
  · subst proc; trivial
  · trivial
  · contradiction

/-- the statuses used for rate-limited calls -/
theorem rate_limit_statuses : (10008 ∈ Rfc.nfsstat3) ∧ (10006 ∈ Rfc.mountstat3) := by decide

/-- the decoder applied to the real replies accepts only results of the right shape -/
theorem decoder_accepts_only_well_shaped (proc st : Nat) (bs : Bytes) (b : Rfc.Body)
    (h : Rfc.decNfsBody proc st bs = some b) : WellShaped proc ⟨st, b⟩ = true := by
  -- every leaf of the decoder is `none`, or yields one constructor: through `done`, or through a sub-decoder, which
  -- the unifier must not look into while it finds out which leaf it is at
  revert h
  fun_cases Rfc.decNfsBody proc st bs
  all_goals intro h
  all_goals with_reducible first
    | cases h
    | cases Rfc.done_some h
    | obtain ⟨_, rfl⟩ := Rfc.decWccBody_some h
    | obtain ⟨_, rfl⟩ := Rfc.decPostOpBody_some h
    | obtain ⟨_, _, _, rfl⟩ := Rfc.decCreateOk_some h
  -- that constructor has the shape for either outcome of the test `st = 0`, unless the leaf lies below the other one
  all_goals refine wellShaped_of (fun h0 => ?_) (fun h0 => ?_)
  all_goals first | contradiction | rfl

/-- KNOWN FINDING nfsstat-garbage-args: status 4 is what the model (as the code) answers to undecodable arguments -/
example (s : St) (c : Ctx) : (procGetattr s c []).2 = .res ⟨4, .statusOnly⟩ := by
  simp [procGetattr, decFh', decFh, decU32, res]

end Props.C14
