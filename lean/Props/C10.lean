/-
  C10 — Identity squashing maps every credential as configured.
-/
import Absnfs.Auth
import Gen.Facts
open Absnfs

namespace Props.C10

/-- Regenerated fact: every write into the auxiliary-gid array in applySquashing happens on a fresh copy
    (the array shared with the caller is never written). -/
theorem gen_copy_before_write : Gen.squashCopiesBeforeWrite = true := by decide

theorem gen_limits : Gen.maxAuxGids = 16 := by decide

/-- 'all': uid, gid and every auxiliary gid become 65534. -/
theorem squash_all (c : Identity) :
    (squash .all c).uid = 65534 ∧ (squash .all c).gid = 65534 ∧ ∀ g ∈ (squash .all c).aux, g = 65534 := by
  simp [squash, nobody]

/-- 'root', caller uid 0: uid and primary gid become 65534. -/
theorem squash_root_uid0 (gid : Nat) (aux : List Nat) :
    (squash .root ⟨0, gid, aux⟩).uid = 65534 ∧ (squash .root ⟨0, gid, aux⟩).gid = 65534 := by
  simp [squash, nobody]

/-- 'root', other callers: uid unchanged; primary gid 0 becomes 65534, any other gid is unchanged. -/
theorem squash_root_other (uid gid : Nat) (aux : List Nat) (h : uid ≠ 0) :
    (squash .root ⟨uid, gid, aux⟩).uid = uid ∧
    (squash .root ⟨uid, gid, aux⟩).gid = if gid = 0 then 65534 else gid := by
  simp [squash, h, nobody]

/-- 'root': in the auxiliary list every gid 0 becomes 65534 and every other entry is unchanged,
    position by position. -/
theorem squash_root_aux (c : Identity) (i : Nat) (h : i < c.aux.length) :
    (squash .root c).aux[i]! = if c.aux[i]! = 0 then 65534 else c.aux[i]! := by
  simp [squash, nobody, h]

theorem squash_root_aux_no_zero (c : Identity) : (0 : Nat) ∉ (squash .root c).aux := by
  simp only [squash, List.mem_map, not_exists, not_and]
  intro g _
  split
  · decide
  · assumption

/-- 'none' (and the empty string) passes ids through. -/
theorem squash_none (c : Identity) : squash .none c = c := rfl

/-- unrecognised mode: uid and gid become 65534 (fail closed). -/
theorem squash_unknown (c : Identity) : (squash .unknown c).uid = 65534 ∧ (squash .unknown c).gid = 65534 := by
  simp [squash, nobody]

/-- Mode strings are compared case-insensitively. -/
theorem mode_case_insensitive (s : Bytes) : squashMode (asciiLower s) = squashMode s := by
  simp only [squashMode, asciiLower_idem]

example : squashMode [82, 111, 79, 116] = .root ∧ squashMode [65, 76, 76] = .all ∧
    squashMode [78, 111, 110, 101] = .none ∧ squashMode [] = .none ∧
    squashMode [114, 111, 111, 116, 121] = .unknown := by
  decide

/-- AUTH_NONE is always 65534/65534, whatever the squash mode. -/
theorem auth_none (ms mg : Nat) (c : Option IP) (es : List AllowEntry) (sec : Bool) (port pb : Nat)
    (body sq : Bytes) (id : Identity)
    (h : validateAuth ms mg c es sec port pb 0 body sq = .allowed id) :
    id.uid = 65534 ∧ id.gid = 65534 := by
  obtain ⟨-, -, ⟨-, rfl⟩ | ⟨h1, -⟩⟩ := (validateAuth_allowed_iff ..).mp h
  · exact ⟨rfl, rfl⟩
  · cases h1

/-- Flavors other than AUTH_NONE and AUTH_SYS are denied. -/
theorem other_flavors_denied (ms mg : Nat) (c : Option IP) (es : List AllowEntry) (sec : Bool)
    (port pb fl : Nat) (body sq : Bytes) (h0 : fl ≠ 0) (h1 : fl ≠ 1) :
    validateAuth ms mg c es sec port pb fl body sq = .denied :=
  (validateAuth_denied_iff ..).mpr (.inr (.inr ⟨h0, fun e => absurd e h1⟩))

/-- An AUTH_SYS body that does not decode is denied. -/
theorem undecodable_denied (ms mg : Nat) (c : Option IP) (es : List AllowEntry) (sec : Bool)
    (port pb : Nat) (body sq : Bytes) (h : parseAuthSys ms mg body = none) :
    validateAuth ms mg c es sec port pb 1 body sq = .denied :=
  (validateAuth_denied_iff ..).mpr (.inr (.inr ⟨Nat.one_ne_zero, fun _ => h⟩))

/-- A decodable AUTH_SYS credential that passes the gate gets exactly the squashed identity. -/
theorem auth_sys_squashed (ms mg : Nat) (c : Option IP) (es : List AllowEntry) (sec : Bool) (port pb : Nat)
    (body sq : Bytes) (a : AuthSys) (h : parseAuthSys ms mg body = some a)
    (hg : hostAdmitted c es = true) (hp : (sec && decide (port ≥ pb)) = false) :
    validateAuth ms mg c es sec port pb 1 body sq =
      .allowed (squash (squashMode sq) ⟨a.uid, a.gid, a.gids⟩) :=
  (validateAuth_allowed_iff ..).mpr ⟨hg, hp, .inr ⟨rfl, a, h, rfl⟩⟩

/-- regenerated from the source on every run: HandleCall copies the squashed identity into the request context unconditionally (every flavor) -/
theorem gen_identity_applied : Gen.handleCallAppliesIdentity = true := by decide

/-- regenerated from the source on every run: the connection loop builds the authentication context inside its request loop, from that call's credential -/
theorem gen_conn_loop_identity_per_call : Gen.connLoopAuthPerCall = true := by decide

/-- the mode the identities are squashed under cannot be changed or dropped by a runtime policy update -/
theorem gen_squash_immutable : Gen.updatePolicyRejectsAnySquashChange = true := by decide

end Props.C10
