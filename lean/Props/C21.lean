/-
  C21 — Attribute and directory caches behave as bounded TTL LRU maps.
  Statements are for both caches (parameter `hitAtEq`), every capacity, every clock value.
-/
import Absnfs.Lru
import Gen.Facts
open Absnfs Absnfs.Lru

namespace Props.C21

variable {V : Type}

/-- Regenerated facts: defaults applied by the constructors / Resize / UpdateTTL, and
    ConfigureNegativeCaching(false, …) purges the negative entries (as `configureNegative` models). -/
theorem gen_defaults :
    Gen.attrCacheDefaultSize = 10000 ∧ Gen.dirCacheDefaultEntries = 1000 ∧ Gen.attrResizeDefault = Gen.attrCacheDefaultSize ∧
    Gen.dirResizeDefault = Gen.dirCacheDefaultEntries ∧ Gen.dirUpdateTtlDefaultNs = Gen.dirTtlDefaultNs ∧
    0 < Gen.attrCacheDefaultSize ∧ 0 < Gen.dirCacheDefaultEntries := by decide

theorem gen_disable_purges : Gen.disableNegativePurges = true := by decide

/-- Every atomic action on a cache. `touch` / `expireRemove` are the second critical sections of Get,
    listed separately so that "every interleaving of concurrent operations" = "every sequence of these". -/
inductive Op (V : Type) where
  | put (now : Nat) (k : Bytes) (v : V)
  | putNegative (now : Nat) (k : Bytes)
  | get (now : Nat) (k : Bytes)
  | touch (k : Bytes)
  | expireRemove (now : Nat) (k : Bytes)
  | invalidate (k : Bytes)
  | invalidateNegativeInDir (d : Bytes)
  | invalidatePrefix (d : Bytes)
  | resize (n : Nat)           -- already defaulted, > 0
  | updateTTL (t : Nat)
  | configureNegative (en : Bool) (t : Int)
  | clear

def Op.WF : Op V → Prop
  | .resize n => 0 < n
  | _ => True

def step (c : Cache V) : Op V → Cache V
  | .put now k v => put c now k v
  | .putNegative now k => putNegative c now k
  | .get now k => (get c now k).1
  | .touch k => touch c k
  | .expireRemove now k => expireRemove c now k
  | .invalidate k => invalidate c k
  | .invalidateNegativeInDir d => invalidateNegativeInDir c d
  | .invalidatePrefix d => invalidatePrefix c d
  | .resize n => resize c n
  | .updateTTL t => updateTTL c t
  | .configureNegative en t => configureNegative c en t
  | .clear => clear c

/-- One-step preservation of "unique keys and at most `cap` entries". -/
theorem inv_step (c : Cache V) (op : Op V) (hw : op.WF) (hI : Inv c) : Inv (step c op) := by
  cases op with
  | put now k v => exact inv_put hI now k v
  | putNegative now k => exact inv_putNegative hI now k
  | get now k => exact inv_get hI now k
  | touch k => exact inv_touch hI k
  | expireRemove now k => exact inv_expireRemove hI now k
  | invalidate k => exact inv_invalidate hI k
  | invalidateNegativeInDir d => exact inv_invalidateNegativeInDir hI d
  | invalidatePrefix d => exact inv_invalidatePrefix hI d
  | resize n => exact inv_resize hI n hw
  | updateTTL t => exact hI.sublist (.refl _) rfl
  | configureNegative en t => exact inv_configureNegative hI en t
  | clear => exact hI.sublist (List.nil_sublist _) rfl

/-- Capacity bound and key uniqueness hold after any sequence (hence any interleaving) of atomic actions. -/
theorem bounded_always (c : Cache V) (ops : List (Op V)) (hw : ∀ op ∈ ops, op.WF) (hI : Inv c) :
    Inv (ops.foldl step c) :=
  List.foldlRecOn ops step hI fun c hI op hop => inv_step c op (hw op hop) hI

/-- A lookup right after a store returns the stored value while it has not expired. -/
theorem get_after_put (c : Cache V) (now now' : Nat) (k : Bytes) (v : V)
    (hfresh : if c.hitAtEq then now' ≤ now + c.ttl else now' < now + c.ttl) :
    getRead (put c now k v) now' k = .hit v := by
  have hf : fresh (putEntry c ⟨k, some v, now + c.ttl⟩) now' ⟨k, some v, now + c.ttl⟩ = true :=
    fresh_iff.mpr (by rw [putEntry_hitAtEq]; exact hfresh)
  simp only [getRead, put, lookup_putEntry_self c ⟨k, some v, now + c.ttl⟩, hf, if_true]

/-- The second critical section of a Get that found an expired entry — which may run after any number of other
    operations — removes the key only if the entry that is in the map THEN is strictly expired: a value stored in
    between with time to live is still there afterwards, so a later lookup hits it. (The two-phase structure of
    `AttrCache.Get` / `DirCache.Get`: decision under the read lock, removal under the write lock after a re-check of
    the current entry; the fifth campaign's C21 change re-checked the entry seen before the lock upgrade.) -/
theorem late_expiry_spares_a_fresh_value (c : Cache V) (now now' : Nat) (k : Bytes) (v : V)
    (hfresh : if c.hitAtEq then now' ≤ now + c.ttl else now' < now + c.ttl) :
    getRead (expireRemove (put c now k v) now' k) now' k = .hit v := by
  have hnot : ¬ now' > now + c.ttl := by split at hfresh <;> omega
  have : expireRemove (put c now k v) now' k = put c now k v := by
    simp only [expireRemove, put, lookup_putEntry_self c ⟨k, some v, now + c.ttl⟩, hnot, if_false]
  rw [this]
  exact get_after_put c now now' k v hfresh

/-- An expired entry is a miss (attribute cache: at or after expireAt; directory cache: after). -/
theorem get_expired (c : Cache V) (now : Nat) (k : Bytes) (e : Entry V) (hl : lookup c k = some e)
    (hexp : if c.hitAtEq then e.expireAt < now else e.expireAt ≤ now) :
    (Lru.get c now k).2 = .miss := by
  simp [Lru.get, getRead, hl, fresh_eq_false_iff.mpr hexp]

/-- An absent key is a miss, and a miss leaves an absent key absent. -/
theorem get_absent (c : Cache V) (now : Nat) (k : Bytes) (h : lookup c k = none) :
    Lru.get c now k = (c, .miss) := by
  simp only [Lru.get, getRead, expireRemove, h]

/-- After an invalidation the key is gone (unique keys), other keys are untouched. -/
theorem invalidate_removes (c : Cache V) (k : Bytes) (hI : Inv c) : k ∉ keys (invalidate c k) :=
  not_mem_keys_invalidate hI k

theorem invalidate_others (c : Cache V) (k k' : Bytes) (hne : k' ≠ k) (e : Entry V) (he : e ∈ c.entries)
    (hk : e.key = k') : e ∈ (invalidate c k).entries :=
  (List.mem_eraseP_of_neg (by simp [hk, hne])).mpr he

/-- Eviction removes the least recently used entry: storing a new key into a full cache drops exactly the
    last key of the recency order and puts the new key first. -/
theorem put_evicts_lru (c : Cache V) (now : Nat) (k : Bytes) (v : V)
    (hfull : c.entries.length = c.cap) (hnew : k ∉ keys c) :
    keys (put c now k v) = k :: (keys c).dropLast := by
  simp only [put, putEntry, lookup_eq_none_iff.mpr hnew, hfull, ge_iff_le, Nat.le_refl, if_true, keys, List.map_cons,
    List.map_dropLast]

/-- With room, nothing is evicted. -/
theorem put_no_evict (c : Cache V) (now : Nat) (k : Bytes) (v : V)
    (hroom : c.entries.length < c.cap) (hnew : k ∉ keys c) :
    keys (put c now k v) = k :: keys c := by
  simp only [put, putEntry, lookup_eq_none_iff.mpr hnew, ge_iff_le, Nat.not_le.mpr hroom, if_false, keys, List.map_cons]

/-- Overwriting an existing key evicts nothing and makes it most recently used. -/
theorem put_existing (c : Cache V) (now : Nat) (k : Bytes) (v : V) (e : Entry V) (hl : lookup c k = some e) :
    keys (put c now k v) = k :: (keys c).erase k := by
  simp only [put, putEntry, hl, keys, List.map_cons, keys_removeKey]

/-- A hit makes the key most recently used and keeps every other key in order. -/
theorem hit_moves_to_front (c : Cache V) (k : Bytes) (e : Entry V) (hl : lookup c k = some e) :
    keys (touch c k) = k :: (keys c).erase k := by
  simp only [touch, hl, keys, List.map_cons, keys_removeKey, (lookup_some_mem hl).2]

/-- Directory invalidation removes exactly the negative entries that are direct children of the directory. -/
theorem invalidateNegativeInDir_exact (c : Cache V) (d : Bytes) (e : Entry V) :
    e ∈ (invalidateNegativeInDir c d).entries ↔
      e ∈ c.entries ∧ ¬ (e.val.isNone = true ∧ isChildOf e.key d = true) := by
  simp only [invalidateNegativeInDir, List.mem_filter, Bool.not_eq_true', Bool.and_eq_false_imp, not_and,
    Bool.not_eq_true]

/-- Negative entries exist only while negative caching is enabled: the invariant is preserved by every
    atomic action, and disabling establishes it. -/
theorem negInv_step (c : Cache V) (op : Op V) (h : NegInv c) : NegInv (step c op) := by
  cases op with
  | put now k v =>
    intro hd e he
    rcases putEntry_sub c _ e he with rfl | he
    · rfl
    · exact h (putEntry_flag c _ ▸ hd) e he
  | putNegative now k =>
    show NegInv (putNegative c now k)
    unfold putNegative
    split
    · rename_i hen
      intro hd
      rw [putEntry_flag, hen] at hd
      cases hd
    · exact h
  | get now k => exact h.mono (get_flag c now k) (get_sub c now k)
  | touch k => exact h.mono (touch_flag c k) (touch_sub c k)
  | expireRemove now k => exact h.mono (expireRemove_flag c now k) (expireRemove_sub c now k)
  | invalidate k => exact h.mono rfl fun _ he => List.mem_of_mem_eraseP he
  | invalidateNegativeInDir d => exact h.mono rfl fun _ => invalidateNegativeInDir_mem
  | invalidatePrefix d => exact h.mono rfl fun _ he => (invalidatePrefix_mem he).1
  | resize n =>
    show NegInv (resize c n)
    unfold resize
    split
    · exact h
    · exact h.mono rfl fun _ he => List.mem_of_mem_take he
  | updateTTL t => exact h
  | configureNegative en t =>
    cases en
    · exact fun _ e he => (List.mem_filter.mp he).2
    · exact fun hd => nomatch hd
  | clear => exact fun _ e he => nomatch he

theorem negative_only_while_enabled (c : Cache V) (ops : List (Op V)) (h : NegInv c) :
    NegInv (ops.foldl step c) :=
  List.foldlRecOn ops step h fun c h op _ => negInv_step c op h

/-- A negative store is a no-op while negative caching is disabled. -/
theorem putNegative_disabled (c : Cache V) (now : Nat) (k : Bytes) (h : c.enableNeg = false) :
    putNegative c now k = c := by simp [putNegative, h]

/-- isChildOf is "directory plus exactly one more component". -/
example : isChildOf [47, 97] [47] = true ∧ isChildOf [47, 97, 47, 98] [47] = false ∧
    isChildOf [47, 97, 47, 98] [47, 97] = true ∧ isChildOf [47, 97, 98] [47, 97] = false ∧
    isChildOf [47, 97] [47, 97] = false ∧ isChildOf [47] [47] = false ∧
    isChildOf [47, 97, 47] [47, 97] = false ∧ isChildOf [47, 97, 47, 98, 47, 99] [47, 97] = false := by
  decide

/-! non-vacuity: a concrete attribute cache of capacity 2 -/
def c0 : Cache Nat := { entries := [], cap := 2, ttl := 5, negTtl := 3, enableNeg := true, hitAtEq := false }
example : Inv c0 := ⟨.nil, Nat.zero_le _, Nat.zero_lt_two⟩
example : keys (put (put (put c0 0 [1] 10) 1 [2] 20) 2 [3] 30) = [[3], [2]] := by decide
example : (Lru.get (put c0 0 [1] 10) 4 [1]).2 = .hit 10 ∧ (Lru.get (put c0 0 [1] 10) 5 [1]).2 = .miss := by decide

end Props.C21
