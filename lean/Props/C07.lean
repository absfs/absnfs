/-
  C07 — The backend only sees clean in-export paths; symlink targets stay contained.
  In the server model every backend call takes `fsPath p` where `p` is a handle's path, or `joinName` of a
  handle's path and a name that passed `validateFilename` (or, for entries of a directory listing,
  `lookupEach`'s filter), or MNT's cleaned path of validated components. The theorems say what those are.
  Every path in the handle table is clean after any history of requests (`table_clean_after_any_history`: part of
  the cache invariant `CInv`). `allocate_keeps_table_clean` is the step at the table itself; for LOOKUP the
  cleanness of the table alone suffices (`lookup_keeps_table_clean`). The correspondence and the runtime oracle
  cover every path argument of every backend call, as recorded by the reference backend.
-/
import Absnfs.ServerPaths
import Absnfs.ServerInvProcs
import Gen.Facts
open Absnfs Absnfs.Server

namespace Props.C07

theorem gen_validating_handlers : Gen.nameValidatingHandlers =
    ["handleCreate", "handleLookup", "handleMkdir", "handleMountCall", "handleRemove", "handleRename", "handleRmdir",
     "handleSymlink"] := rfl
theorem gen_mnt_and_symlink : (Gen.mntValidatesComponents && Gen.symlinkRejectsAbsoluteAndDotDot) = true := by decide

/-- validated components are exactly: non-empty, at most 255 bytes, free of '/', '\' and NUL, not "." or ".." -/
theorem validated_component_iff (n : Bytes) :
    validateFilename n = 0 ↔
      (n ≠ [] ∧ n.length ≤ 255 ∧ (0 : UInt8) ∉ n ∧ (47 : UInt8) ∉ n ∧ (92 : UInt8) ∉ n ∧ n ≠ [46] ∧ n ≠ [46, 46]) :=
  validateFilename_eq_zero n

/-- a handle's (clean) path joined with one validated component is absolute and normalized -/
theorem handle_path_plus_component_clean (d name : Bytes) (hd : CleanPath d) (hv : validateFilename name = 0) :
    CleanPath (joinName d name) := joinName_clean d name hd hv

/-- names of a directory listing are joined only if they pass the same separator / dot tests -/
theorem listing_names_filtered (n : Bytes)
    (h : ¬ (n = [46] ∨ n = [46, 46] ∨ n = [] ∨ n.contains 47 = true ∨ n.contains 92 = true)) : NoSep n :=
  listing_name_noSep n h

/-- MNT's path: validated components joined from the root -/
theorem mnt_path_clean (comps : List Bytes) (h : ∀ c ∈ comps, validateFilename c = 0) (hne : comps ≠ []) :
    CleanPath (comps.foldl (fun a c => a ++ 47 :: c) []) :=
  join_clean (fun c hc => noSep_of_valid c (h c hc)) hne

/-- handing out a handle for a clean path keeps every path in the handle table clean (with or without eviction) -/
theorem allocate_keeps_table_clean (s : St) (n : Node) (hc : HandlesClean s) (hp : CleanPath n.path) :
    HandlesClean (allocate s n).1 := allocate_clean s n hc hp

/-- the node a handle resolves to has a clean path -/
theorem handle_paths_are_clean {s : St} {h : Nat} {n : Node} (hc : HandlesClean s) (hn : nodeOf s h = some n) :
    CleanPath n.path := nodeOf_clean hc hn

/-- LOOKUP, for every argument byte string: the table stays clean -/
theorem lookup_keeps_table_clean (s : St) (c : Ctx) (args : Bytes) (hc : HandlesClean s) :
    HandlesClean (procLookup s c args).1 := by
  cases procLookup_run s c args with
  | refused h => rw [h.fst]; exact hc
  | run _ _ hv hn h =>
    -- `(lookupDirAttr t …).1` is `(getAttrOr t …).1` by `rfl`
    cases h with
    | notDir _ hr => rw [hr]; exact hc.of_hs (getAttrOr_hs ..)
    | absent _ hl hr => rw [hr]; exact (hc.of_hs (lookupPath_acOnly hl).hs).of_hs (getAttrOr_hs ..)
    | ok _ hl hr =>
      rw [hr]
      refine (allocate_clean _ _ (hc.of_hs (lookupPath_acOnly hl).hs) ?_).of_hs (getAttrOr_hs ..)
      rw [lookupPath_path hl]
      exact joinName_clean _ _ (nodeOf_clean hc hn) hv

/-- No symlink created through the server has an absolute target or a ".." component (or an empty one). -/
theorem symlink_target_contained (s s' : St) (c : Ctx) (args : Bytes) (body : Rfc.Body)
    (h : procSymlink s c args = (s', .res ⟨0, body⟩)) :
    ∃ (hd : Nat) (r1 r2 r3 r4 name target : Bytes) (sa : Sattr3),
      decFh' s args = some (hd, r1) ∧ decStr s r1 = some (name, r2) ∧ decSattr3 r2 = some (sa, r3) ∧
      decStr s r3 = some (target, r4) ∧
      validateFilename name = 0 ∧ target ≠ [] ∧ target.head? ≠ some 47 ∧ targetHasDotDot target = false := by
  cases h ▸ procSymlink_run s c args with
  | refused hr => exact hr.not_ok.elim
  | run _ hfh hname hv hsa htarget hne habs hdots _ _ =>
    exact ⟨_, _, _, _, _, _, _, _, hfh, hname, hsa, htarget, hv, hne, habs, hdots⟩

/-- READLINK never returns a relative target containing "..". -/
theorem readlink_no_relative_dotdot (s s' : St) (c : Ctx) (args : Bytes) (o : Option Rfc.Fattr) (t : Bytes)
    (h : procReadlink s c args = (s', .res ⟨0, .readlinkOk o t⟩)) : t.head? = some 47 ∨ targetHasDotDot t = false := by
  cases h ▸ procReadlink_run s c args with
  | refused hr => exact hr.not_ok.elim
  | run _ _ _ _ hdots ht =>
    obtain ⟨_, _, hk⟩ := ht.of_ok
    cases hk
    by_cases ha : t.head? = some 47
    · exact .inl ha
    · exact .inr (Bool.eq_false_iff.mpr fun hd => hdots ⟨ha, hd⟩)

/-- non-vacuity -/
example : validateFilename [97, 46, 98] = 0 := by decide
example : validateFilename [97, 47, 98] = 22 := by decide
example : validateFilename [46, 46] = 22 := by decide
example : targetHasDotDot [97, 47, 46, 46, 47, 98] = true := by decide

/-- every request — any procedure, any argument bytes — keeps the handle table clean (the table part of the
    cache invariant `CInv`, which every request preserves), so after any history on a new server every handle
    resolves to an absolute, normalized path made of validated components -/
theorem every_request_keeps_table_clean (s : St) (c : Ctx) (prog vers proc : Nat) (args : Bytes) (h : CInv s) :
    HandlesClean (handle s c prog vers proc args).1 := (handle_cinv s c prog vers proc args h).hcl

theorem table_clean_after_any_history (s0 : St) (rs : List Req) (h0 : CInv s0) : HandlesClean (runReqs s0 rs) :=
  (runReqs_cinv s0 rs h0).hcl

theorem every_handle_names_a_clean_path (s0 : St) (rs : List Req) (h0 : CInv s0) (hd : Nat) (n : Node)
    (hn : nodeOf (runReqs s0 rs) hd = some n) : CleanPath n.path :=
  nodeOf_clean (table_clean_after_any_history s0 rs h0) hn

/-- MNT's path after path.Clean is a clean path whatever the client sent -/
theorem mnt_clean_path (raw : Bytes) : CleanPath (cleanAbs raw) := cleanAbs_clean raw

/-- regenerated from the source on every run: MNT cleans the requested path before anything is derived from it (the model's cleanAbs) -/
theorem gen_mnt_cleans_path : Gen.mntCleansPath = true := by decide

/-- MNT's per-component validation does not depend on the MOUNT version or anything else: the refusal's condition is
    exactly `status != NFS_OK` (the model's `procMnt` is the same for versions 1 and 3) -/
theorem gen_mnt_component_check_unconditional : Gen.mntComponentCheckUnconditional = true := by decide

end Props.C07
