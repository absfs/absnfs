/-
  C08 — A read-only export is never modified.
  "Every request" = every (credential, program, version, procedure, argument bytes) of `Server.handle`; the
  modifying backend operations are exactly the ways `St.fs` can change, so "no modifying operation" is
  `fs` unchanged. Runtime switching is the same statement: it holds for every state whose policy is read-only,
  however that state was reached.
-/
import Absnfs.ServerReadOnly
import Gen.Facts
open Absnfs Absnfs.Server

namespace Props.C08

/-- Regenerated from the source: exactly these handlers start with the read-only guard answering NFS3ERR_ROFS
    (MKNOD and LINK never reach the backend and answer NFS3ERR_NOTSUPP), as the model's procedures do. -/
theorem gen_ro_guards : Gen.roGuardedHandlers =
    ["handleCommit", "handleCreate", "handleMkdir", "handleRemove", "handleRename", "handleRmdir",
     "handleSetattr", "handleSymlink", "handleWrite"] := rfl

/-- No request, whatever its procedure, arguments or credentials, changes the backing filesystem while the
    read-only policy is in force. -/
theorem readonly_never_modifies (s : St) (c : Ctx) (prog vers proc : Nat) (args : Bytes)
    (hro : s.cfg.readOnly = true) : (handle s c prog vers proc args).1.fs = s.fs := by
  fun_cases handle s c prog vers proc args
  · rfl
  · exact handleMount_fs s c proc args
  · rfl
  · fun_cases handleNfs s c proc args
    · rfl
    · exact procGetattr_fs s c args
    · rw [procSetattr_ro c args hro]
    · exact procLookup_fs s c args
    · exact procAccess_fs s c args
    · exact procReadlink_fs s c args
    · exact procRead_fs s c args
    · rw [procWrite_ro c args hro]
    · rw [procCreate_ro c args hro]
    · rw [procMkdir_ro c args hro]
    · rw [procSymlink_ro c args hro]
    · rfl  -- MKNOD answers NFS3ERR_NOTSUPP
    · rw [procRemove_ro c args hro]
    · rw [procRmdir_ro c args hro]
    · rw [procRename_ro c args hro]
    · rfl  -- and so does LINK
    · exact procReaddir_fs s c args
    · exact procReaddirplus_fs s c args
    · exact withObjAttr_fs ..
    · exact withObjAttr_fs ..
    · exact withObjAttr_fs ..
    · rw [procCommit_ro c args hro]
    · rfl
  · rfl

/-- Every mutating procedure (SETATTR, WRITE, CREATE, MKDIR, SYMLINK, MKNOD, REMOVE, RMDIR, RENAME, LINK,
    COMMIT) fails: NFS3ERR_ROFS, or NFS3ERR_NOTSUPP for the two the server never implements. -/
theorem readonly_mutating_procs_fail (s : St) (c : Ctx) (proc : Nat) (args : Bytes) (hro : s.cfg.readOnly = true)
    (hm : mutatingProc proc = true) :
    ∃ b, (handleNfs s c proc args).2 = .res ⟨30, b⟩ ∨ (handleNfs s c proc args).2 = .res ⟨10004, b⟩ := by
  have rofs {r : St × Outcome} {b : Rfc.Body} (h : r = (s, res 30 b)) : ∃ b, r.2 = .res ⟨30, b⟩ ∨ r.2 = .res ⟨10004, b⟩ :=
    ⟨b, .inl (congrArg Prod.snd h)⟩
  simp only [mutatingProc, List.mem_cons, List.mem_nil_iff, or_false, decide_eq_true_eq] at hm
  rcases hm with rfl | rfl | rfl | rfl | rfl | rfl | rfl | rfl | rfl | rfl | rfl
  · exact rofs (procSetattr_ro c args hro)
  · exact rofs (procWrite_ro c args hro)
  · exact rofs (procCreate_ro c args hro)
  · exact rofs (procMkdir_ro c args hro)
  · exact rofs (procSymlink_ro c args hro)
  · exact ⟨.wcc wcc0, .inr rfl⟩
  · exact rofs (procRemove_ro c args hro)
  · exact rofs (procRmdir_ro c args hro)
  · exact rofs (procRename_ro c args hro)
  · exact ⟨.linkRes none wcc0, .inr rfl⟩
  · exact rofs (procCommit_ro c args hro)

/-- ACCESS never grants MODIFY, EXTEND or DELETE on a read-only export. -/
theorem readonly_access_no_write_bits (p : Rwx) (isDir : Bool) (q : AccessBits) :
    (grant p isDir true q).modify = false ∧ (grant p isDir true q).extend = false ∧ (grant p isDir true q).delete = false := by
  simp [grant]

theorem readonly_access_word (mode : Nat) (isDir : Bool) (eu eg : Nat) (aux : List Nat) (fu fg mask : Nat) :
    (AccessBits.ofNat (accessReply mode isDir true eu eg aux fu fg mask)).modify = false ∧
    (AccessBits.ofNat (accessReply mode isDir true eu eg aux fu fg mask)).extend = false ∧
    (AccessBits.ofNat (accessReply mode isDir true eu eg aux fu fg mask)).delete = false := by
  unfold accessReply accessWire
  rw [AccessBits.ofNat_toNat]
  exact readonly_access_no_write_bits _ _ _

/-- the ACCESS handler passes the policy's read-only flag to that computation -/
theorem access_uses_policy (s : St) (c : Ctx) (args : Bytes) (s' : St) (o : Option Rfc.Fattr) (w : Nat)
    (h : procAccess s c args = (s', .res ⟨0, .accessOk o w⟩)) (hro : s.cfg.readOnly = true) :
    (AccessBits.ofNat w).modify = false ∧ (AccessBits.ofNat w).extend = false ∧ (AccessBits.ofNat w).delete = false := by
  cases h ▸ procAccess_run s c args with
  | refused hr => exact hr.not_ok.elim
  | run _ _ _ ht =>
    obtain ⟨a, _, hk⟩ := ht.of_ok
    cases hk
    rw [hro]
    exact readonly_access_word ..

/-- non-vacuity: a read-only state in which a WRITE with well-formed arguments is refused -/
example : mutatingProc 7 = true := by decide

end Props.C08
