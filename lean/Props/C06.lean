/-
  C06 — A handle value never silently refers to a different object.
  The code re-issues freed ids (free-list reuse is required by the repository's own tests), so the full
  statement is false of the model as it is of the code; the counterexample is proved, replayed against the
  real code on every run and listed in known_findings.json. What is proved: the partial statements below.
-/
import Absnfs.HandlesInv
import Gen.Facts
import Absnfs.ServerStale
open Absnfs Absnfs.Handles

namespace Props.C06

abbrev alloc' := alloc Gen.defaultMaxHandles Gen.evictDivisor
abbrev run' := run Gen.defaultMaxHandles Gen.evictDivisor
abbrev Inv' := Inv Gen.defaultMaxHandles

/-- Full statement (NOT provable): a handle value, once issued for `p`, never resolves to another path. -/
def never_repointed_full : Prop :=
  ∀ (raw : Int) (ops1 ops2 : List Op) (p q : Bytes),
    (∀ op ∈ ops1 ++ ops2, op.WF) → p ≠ [] →
    let s1 := run' (init raw) ops1
    let h := (alloc' s1 p).2
    get (run' (alloc' s1 p).1 ops2) h = some q → q = p

/-- KNOWN FINDING C06/free-list-id-reuse: issue id 1 for /a, release it, allocate /b: id 1 now means /b. -/
theorem never_repointed_counterexample : ¬ never_repointed_full := by
  intro h
  have := h 0 [] [.release 1, .alloc [98]] [97] [98]
    (by intro op hop; simp at hop; rcases hop with rfl | rfl <;> simp [Op.WF]) (by decide)
  simp only at this
  exact absurd (this (by decide)) (by decide)

/-- A handle that is not in the table resolves to nothing (the handlers turn this into NFS3ERR_STALE:
    regenerated fact below). -/
theorem dead_handle_is_none (s : St) (h : Nat) (hd : h ∉ ids s.live) : get s h = none :=
  Option.map_eq_none_iff.mpr (List.find?_eq_none.mpr fun _ hx hxh => hd (beq_iff_eq.mp hxh ▸ List.mem_map_of_mem hx))

theorem gen_stale_on_miss : Gen.handlersStaleOnMiss = true := by decide

/-- Releasing or evicting removes the handle: after `release h`, `h` resolves to nothing. -/
theorem released_is_dead (s : St) (h : Nat) (hI : Inv' s) : get (release s h) h = none := by
  apply dead_handle_is_none
  by_cases hin : h ∈ ids s.live
  · rw [release_of_mem hin, ids_eraseP]
    exact hI.idsNodup.not_mem_erase
  · rwa [release_of_not_mem hin]

theorem releaseAll_kills_all (s : St) (h : Nat) : get (releaseAll s) h = none := by
  simp [Handles.get, releaseAll]

/-- Partial: a *fresh* id (taken from nextHandle, i.e. when the free list is empty) was never issued
    before — every id ever live or freed is below nextHandle. So without free-list reuse no value is
    ever re-pointed. -/
theorem fresh_id_never_issued (s : St) (p : Bytes) (hp : p ≠ []) (hI : Inv' s)
    (hfree : s.free = []) (hnew : handleOf s p = none) :
    (alloc' s p).2 = s.next ∧ s.next ∉ ids s.live ∧ ∀ i ∈ ids s.live, i < s.next := by
  refine ⟨?_, fun h => Nat.lt_irrefl _ (hI.liveLt _ h), hI.liveLt⟩
  unfold alloc' alloc
  rw [if_neg hp, hnew]
  simp only [pick, hfree, listMin]
  split <;> rfl

/-- Across Unexport / re-export: ReleaseAll empties the free list but keeps nextHandle, so every id
    issued afterwards (until some later release) is new: old handle values stay dead, never re-pointed. -/
theorem after_releaseAll_fresh (s : St) (p : Bytes) (hp : p ≠ []) (hI : Inv' s) :
    (alloc' (releaseAll s) p).2 = s.next ∧ ∀ i ∈ ids s.live, i < s.next := by
  have hI' : Inv' (releaseAll s) := inv_releaseAll _ s
  have := fresh_id_never_issued (releaseAll s) p hp hI' rfl (by simp [handleOf, releaseAll])
  exact ⟨this.1, hI.liveLt⟩

/-- nextHandle never decreases, so ids handed out from it are strictly increasing. -/
theorem next_monotone (s : St) (op : Op) :
    s.next ≤ (step Gen.defaultMaxHandles Gen.evictDivisor s op).next := by
  cases op with
  | alloc p =>
    simp only [step, alloc]
    split
    · exact Nat.le_refl _
    · split <;> exact pick_next_le s
  | release h => simp only [step, release]; split <;> exact Nat.le_refl _
  | releaseAll => exact Nat.le_refl _

example : get (run' (init 0) [.alloc [97], .release 1, .alloc [98]]) 1 = some [98] := by decide

/-- Second clause at handler level, for the server model the replies are checked against: every NFS procedure
    that takes a handle (GETATTR … COMMIT, 1..21), given arguments whose handle decodes but is not (or no longer) in
    the table — released, evicted, or from before an Unexport — leaves the whole server state unchanged and answers
    with a status other than NFS3_OK and a body without attributes or data (the status is NFS3ERR_STALE unless an
    earlier check of the same handler fires first: read-only export, undecodable or invalid remaining arguments). -/
theorem dead_handle_refused_by_every_procedure (s : Server.St) (c : Server.Ctx) (proc : Nat) (hp : 1 ≤ proc ∧ proc ≤ 21)
    (args r1 : Bytes) (h : Nat) (hfh : Server.decFh' s args = some (h, r1)) (hn : Server.nodeOf s h = none) :
    (Server.handleNfs s c proc args).1 = s ∧
    ∃ st b, (Server.handleNfs s c proc args).2 = Server.res st b ∧ st ≠ 0 ∧ Server.BareBody b := by
  fun_cases Server.handleNfs s c proc args
  · exact absurd hp.1 (by decide)
  · exact Server.procGetattr_dead hfh hn
  · exact Server.procSetattr_dead hfh hn
  · exact Server.procLookup_dead hfh hn
  · exact Server.procAccess_dead hfh hn
  · exact Server.procReadlink_dead hfh hn
  · exact Server.procRead_dead hfh hn
  · exact Server.procWrite_dead hfh hn
  · exact Server.procCreate_dead hfh hn
  · exact Server.procMkdir_dead hfh hn
  · exact Server.procSymlink_dead hfh hn
  · exact ⟨rfl, _, _, rfl, by decide, .wcc⟩  -- MKNOD: NFS3ERR_NOTSUPP
  · exact Server.procRemove_dead hfh hn
  · exact Server.procRmdir_dead hfh hn
  · exact Server.procRename_dead hfh hn
  · exact ⟨rfl, _, _, rfl, by decide, .linkRes⟩  -- LINK: NFS3ERR_NOTSUPP
  · exact Server.procReaddir_dead hfh hn
  · exact Server.procReaddirplus_dead hfh hn
  · exact Server.withObjAttr_dead hfh hn _
  · exact Server.withObjAttr_dead hfh hn _
  · exact Server.withObjAttr_dead hfh hn _
  · exact Server.procCommit_dead hfh hn
  · -- `proc` is none of 0, …, 21: walk its bound down
    have hle := hp.2
    iterate 21 replace hle := Nat.le_of_lt_succ (Nat.lt_of_le_of_ne hle ‹_›)
    exact absurd (Nat.le_zero.mp hle) ‹_›

/-- … and it is NFS3ERR_STALE (70) for GETATTR, the procedure with no other argument -/
example (s : Server.St) (c : Server.Ctx) (args r1 : Bytes) (h : Nat) (hfh : Server.decFh' s args = some (h, r1))
    (hn : Server.nodeOf s h = none) : Server.procGetattr s c args = (s, Server.res 70 .statusOnly) := by
  unfold Server.procGetattr; simp only [hfh, hn]

end Props.C06
