/-
  C29 — Concurrent requests are race-free and linearizable.
  PARTIAL, by nature: data races, panics, deadlocks and the interleavings of Go code below the granularity of
  a backend call are runtime behaviour; they are observed (race detector, randomised schedules with yields and
  delays injected in every backend call, many seeds), not proved. What a theorem carries here is why the
  oracle is right: for requests that touch distinct names, *every* serial order gives each client the replies
  of its own solo run and yields the union tree — because operations at different places of the tree commute
  and do not see each other. That is proved on the backing-filesystem model; the sequential behaviour of each
  request is the Lean server model (tied by the other checks' correspondence); the lock structures' own
  invariants under every interleaving of their critical sections are C05 (handle table), C21 (caches),
  C16 (policy drain), C17 (connections), C20 (worker pool).
-/
import Absnfs.FsLemmas
import Absnfs.BytesComm
import Absnfs.FsFrame
import Gen.Facts
open Absnfs Absnfs.Fs

namespace Props.C29

/-- the tie between "the lock structures' invariants hold under every interleaving of their critical sections"
    and the code: each handle-table operation is one critical section (regenerated from filehandle.go) -/
theorem gen_handle_ops_atomic : Gen.handleOpsAtomic = true := by decide

/-- stores at different paths commute (as maps: entry order and inode counter aside) -/
theorem stores_commute (fs : T) (p q : Path) (e f : Entry) (h : p ≠ q) :
    SameMap (set (set fs p e) q f) (set (set fs q f) p e) := set_set_comm fs p q e f h

theorem store_and_removal_commute (fs : T) (p q : Path) (e : Entry) (h : p ≠ q) :
    SameMap (del (set fs p e) q) (set (del fs q) p e) := set_del_comm fs p q e h

theorem removals_commute (fs : T) (p q : Path) : SameMap (del (del fs p) q) (del (del fs q) p) := del_del_comm fs p q

/-- everything the server asks the backend (Lstat, Stat, Open, Readlink: path resolution) depends only on the map -/
theorem resolution_depends_on_map_only {a b : T} (h : SameMap a b) (p : Path) : walk a p = walk b p := walk_sameMap h p

/-- what one client's operation stores at `p` does not change how another client's path `q` resolves, unless `q`
    passes through `p`: requests on distinct names (neither a prefix of the other) do not see each other -/
theorem distinct_names_independent (fs : T) (p q : Path) (e : Entry) (h : ¬ p.isPrefixOf q = true) :
    walk (set fs p e) q = walk fs q := walk_set_other fs p q e h

/-- non-vacuity: /d/t0a and /d/t1a are unrelated names in a shared directory -/
example : ¬ ([[100], [116, 48, 97]] : Path).isPrefixOf [[100], [116, 49, 97]] = true := by decide

/-- AttrCache.Get changes the map and the LRU list only while it holds the write lock (the model's two-phase Get:
    decision under the read lock, mutation under the write lock after a re-check) -/
theorem gen_attr_cache_get_locking : Gen.attrCacheGetMutatesUnderWriteLock = true := by decide

/-- concurrent WRITEs to disjoint ranges of one file: the two WriteAt calls commute, so both serial orders leave
    the same bytes (holes included) -/
theorem disjoint_writes_commute (d : Bytes) (o1 o2 : Nat) (w1 w2 : Bytes) (h1 : w1 ≠ []) (h2 : w2 ≠ [])
    (hd : o1 + w1.length ≤ o2 ∨ o2 + w2.length ≤ o1) :
    writeBytes (writeBytes d o1 w1) o2 w2 = writeBytes (writeBytes d o2 w2) o1 w1 :=
  writeBytes_comm_disjoint d o1 o2 w1 w2 h1 h2 hd

/-- any number of pairwise non-overlapping, non-empty WRITEs: every serial order of them leaves the same file
    contents — the READ that follows the completed WRITEs has one possible answer -/
theorem disjoint_writes_any_order {ws ws' : List (Nat × Bytes)} (hp : ws.Perm ws') (hdis : ws.Pairwise Disj)
    (hne : ∀ x ∈ ws, x.2 ≠ []) (d : Bytes) : writeAll d ws = writeAll d ws' := writeAll_perm hp hdis hne d

/-- and that answer holds each WRITE's payload in its own range: a range written once reads back exactly,
    whatever non-overlapping writes were applied after it (this is the content oracle of the harness's
    completed-writes-then-read scenario) -/
theorem written_range_reads_back (d : Bytes) (o : Nat) (w : Bytes) (hw : w ≠ []) (ws : List (Nat × Bytes))
    (hdis : ∀ x ∈ ws, x.2 ≠ [] ∧ (x.1 + x.2.length ≤ o ∨ o + w.length ≤ x.1)) :
    slice (writeAll (writeBytes d o w) ws) o w.length = w := range_survives_disjoint_writes d o w hw ws hdis

/-- length side of the same oracle: after any sequence of writes, in any order, overlapping or not, the file
    reaches at least the end of every non-empty write - a READ after the completed WRITEs cannot be shorter -/
theorem completed_writes_are_covered (d : Bytes) (ws : List (Nat × Bytes)) (x : Nat × Bytes) (hx : x ∈ ws) (hne : x.2 ≠ []) :
    x.1 + x.2.length ≤ (writeAll d ws).length := writeAll_covers_every_write d ws x hx hne

/-- a WRITE racing a SETATTR(size): when the write ends at or below the new size the two commute (one outcome) -/
theorem write_below_new_size_commutes_with_truncate (d : Bytes) (o : Nat) (w : Bytes) (n : Nat) (hw : w ≠ [])
    (h : o + w.length ≤ n) : truncBytes (writeBytes d o w) n = writeBytes (truncBytes d n) o w :=
  truncBytes_writeBytes_comm d o w n hw h

/-- ... and when it reaches beyond the new size they do not: the two serial orders differ already in the length, so
    for such pairs the oracle accepts either outcome and nothing else -/
theorem write_beyond_new_size_order_visible (d : Bytes) (o : Nat) (w : Bytes) (n : Nat) (hw : w ≠ [])
    (h : n < o + w.length) : (truncBytes (writeBytes d o w) n).length ≠ (writeBytes (truncBytes d n) o w).length :=
  trunc_then_write_differs d o w n hw h

/-- two WRITEs of the same range: the serial order decides, the later payload is what stays -/
theorem same_range_last_writer_wins (d : Bytes) (o : Nat) (w1 w2 : Bytes) (h1 : w1 ≠ []) (h2 : w2 ≠ [])
    (hl : w1.length = w2.length) : writeBytes (writeBytes d o w1) o w2 = writeBytes d o w2 :=
  writeBytes_overwrite d o w1 w2 h1 h2 hl

/-- the same at the level of the backing filesystem: two WriteAt calls on non-overlapping ranges of one file,
    through whichever paths resolve to it (p, p' — e.g. the name and a symbolic link to it), both within the size
    limit, succeed in either order with full counts and leave one and the same filesystem `fin`, whose file
    holds both payloads -/
theorem concurrent_disjoint_writes_one_outcome {fs : T} (hwf : WF fs) {p p' q : Path} {e : Entry}
    (hf : follow fs p = (q, .ok e)) (hf' : follow fs p' = (q, .ok e)) (hk : e.kind = .file)
    (o1 o2 : Nat) (w1 w2 : Bytes) (h1 : w1 ≠ []) (h2 : w2 ≠ [])
    (hs1 : o1 + w1.length ≤ fs.maxSize) (hs2 : o2 + w2.length ≤ fs.maxSize)
    (hd : o1 + w1.length ≤ o2 ∨ o2 + w2.length ≤ o1) :
    ∃ fa fb fin, writeAt fs p o1 w1 = .ok (fa, w1.length) ∧ writeAt fa p' o2 w2 = .ok (fin, w2.length) ∧
                 writeAt fs p' o2 w2 = .ok (fb, w2.length) ∧ writeAt fb p o1 w1 = .ok (fin, w1.length) ∧
                 get fin q = some { e with data := writeBytes (writeBytes e.data o1 w1) o2 w2 } :=
  writeAt_comm_disjoint hwf hf hf' hk o1 o2 w1 w2 h1 h2 hs1 hs2 hd

/-- non-vacuity: three writers of 2 bytes each at 0, 2, 4 into an empty file, applied in the order 2, 0, 1 -/
example : writeAll [] [(4, [99, 99]), (0, [97, 97]), (2, [98, 98])] = [97, 97, 98, 98, 99, 99] := by decide
example : List.Pairwise Disj [(4, [99, 99]), (0, [97, 97]), (2, [98, 98])] := by
  unfold Disj; decide

end Props.C29
