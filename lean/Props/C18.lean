/-
  C18 — Rate limiters never admit more than burst + rate × elapsed.
  Exact rational arithmetic; float64 rounding in the Go code is not modelled.
-/
import Absnfs.Bucket
import Gen.Facts
open Absnfs Absnfs.Bucket

namespace Props.C18

/-- Regenerated: per-operation bursts and the large-I/O threshold as they are in the source. -/
theorem gen_op_bursts :
    Gen.opBurstReadLarge = 10 ∧ Gen.opBurstWriteLarge = 5 ∧ Gen.opBurstReaddir = 5 ∧ Gen.opBurstMount = 2 ∧
    Gen.largeIoThreshold = 65536 := by decide

/-- Every kind of limiter (global, per-IP, per-connection, per-operation) is a TokenBucket created with
    NewTokenBucket(rate, burst) and consulted only through Allow (regenerated fact). -/
theorem gen_all_limiters_are_buckets : Gen.limitersAreTokenBuckets = true := by decide

/-- The bound, for every rate ≥ 0 (zero and fractional included), every burst and every monotone sequence
    of request instants of any length. -/
theorem bucket_bound (rate : Rat) (burst t0 : Nat) (ts : List Nat) (hr : 0 ≤ rate) (hm : Mono t0 ts) :
    (((TB.new rate burst t0).run ts).2 : Rat) ≤
      burst + rate * secs (((TB.new rate burst t0).run ts).1.last - t0) :=
  (Ok.new rate burst t0 hr).admitted_le ts hm

/-- A zero rate admits exactly at most the burst, ever. -/
theorem zero_rate_only_burst (burst t0 : Nat) (ts : List Nat) (hm : Mono t0 ts) :
    ((TB.new 0 burst t0).run ts).2 ≤ burst := by
  have := bucket_bound 0 burst t0 ts Rat.le_refl hm
  rw [Rat.zero_mul, Rat.add_zero] at this
  exact Rat.natCast_le_natCast.mp this

/-- No refusal unless the bucket holds less than one token. -/
theorem refusal_needs_empty (b : TB) (now : Nat) (h : (b.allow now).2 = false) : b.level now < 1 := by
  rw [allow_snd, decide_eq_false_iff_not] at h
  exact Rat.not_le.mp h

theorem admit_iff_token (b : TB) (now : Nat) : (b.allow now).2 = true ↔ 1 ≤ b.level now := by
  rw [allow_snd, decide_eq_true_iff]

/-- Periodic cleanup of idle (full) limiters never changes any admit/deny decision.
    (`htok` is not needed: the level is capped whatever the bucket holds.) -/
theorem cleanup_never_changes_decisions (b : TB) (rate : Rat) (burst now now' : Nat)
    (hfull : b.level now ≥ (burst : Rat)) (hmax : b.max = burst) (hrate : b.rate = rate) (hr : 0 ≤ rate)
    (htok : b.tokens ≤ b.max) (h1 : b.last ≤ now) (h2 : now ≤ now') :
    (b.allow now').2 = ((TB.new rate burst now').allow now').2 ∧
    (b.allow now').1.tokens = ((TB.new rate burst now').allow now').1.tokens ∧
    (b.allow now').1.last = ((TB.new rate burst now').allow now').1.last := by
  have h := allow_of_level_eq (cleanup_invisible b rate burst now now' hfull hmax (hrate ▸ hr) h1 h2)
  exact ⟨h.1, h.2, by rw [allow_last, allow_last]⟩

/-- A request is refused only if one of the buckets consulted for it holds less than one token: a client
    within its own limits is never refused while the global budget has room. -/
theorem refused_only_if_some_bucket_empty (gf : Bool) (r : RL) (ip conn : String) (now : Nat)
    (h : (r.allowRequest gf ip conn now).2 = false) :
    (r.global.allow now).2 = false ∨ (r.perIP.allow ip now).2 = false ∨
    (r.perConnEnabled = true ∧ (r.perConn.allow conn now).2 = false) := by
  rw [allowRequest_snd, Bool.and_eq_false_iff, Bool.and_eq_false_iff] at h
  exact h.imp_right (Or.imp_right fun h => by simpa using h)

/-! non-vacuity -/
example : Mono 0 [1000000000, 1500000000, 9000000000] := by simp [Mono]
example : ((TB.new (1/6) 2 0).run [0, 0, 0, 6000000000, 6000000001]).2 = 3 := by decide +kernel

end Props.C18
