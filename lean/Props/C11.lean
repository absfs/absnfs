/-
  C11 — Only an effective root identity can assign ownership.
  `c.uid`, `c.gid` are the caller's effective identity after squashing (C10 proves what they are for every
  squash mode and credential; `Ctx` is built from `squash` of Absnfs/Auth.lean in the correspondence). "What the backend
  records" is `Fs.ownerAt` of the backing-filesystem model.
-/
import Absnfs.ServerOwner
import Absnfs.ServerInv
import Gen.Facts
open Absnfs Absnfs.Server

namespace Props.C11

theorem gen_creation_chowns : (Gen.createChowns && Gen.mkdirChowns && Gen.symlinkLchowns) = true := by decide

/-- the owner the creation procedures ask the backend to record: for a caller that is not effective root it is
    the caller's own identity, whatever sattr3 says -/
theorem nonroot_gets_own_identity (c : Ctx) (sa : Sattr3) (h : c.uid ≠ 0) :
    ownerUid c sa = c.uid ∧ ownerGid c sa = c.gid := nonroot_owner c sa h

/-- … and for an effective root it is sattr3's uid/gid where given -/
theorem root_may_assign (c : Ctx) (sa : Sattr3) (h : c.uid = 0) :
    ownerUid c sa = sa.uid.getD c.uid ∧ ownerGid c sa = sa.gid.getD c.gid := root_owner c sa h

/-- SETATTR from a non-root effective uid: no owner or group anywhere in the backend changes, for every
    argument byte string and every state. sattr3's uid and gid are ignored. -/
theorem setattr_nonroot_changes_no_owner (s : St) (c : Ctx) (args : Bytes) (hnr : c.uid ≠ 0) (q : Fs.Path) :
    Fs.ownerAt (procSetattr s c args).1.fs q = Fs.ownerAt s.fs q := by
  cases procSetattr_run s c args with
  | refused hr => rw [hr.fst]
  | run _ _ _ _ _ _ hrun =>
    cases hrun with
    | attrFailed hg hr | guarded hg _ hr | sizeFailed hg _ _ hr =>
      rw [hr]; exact congrArg (Fs.ownerAt · q) (getAttr_acOnly hg).fs
    | sized hg _ hsz hr =>
      rw [hr, setattrApply_owner_nonroot _ c _ _ _ hnr q, setattrSize_owner hsz q, (getAttr_acOnly hg).fs]

/-- MKDIR that succeeds: the backend records the new directory as owned by that identity and no other object
    changes owner. -/
theorem mkdir_owner (s s' : St) (c : Ctx) (args : Bytes) (body : Rfc.Body)
    (h : procMkdir s c args = (s', .res ⟨0, body⟩)) :
    ∃ (hd : Nat) (r1 r2 r3 name : Bytes) (sa : Sattr3) (n : Node),
      decFh' s args = some (hd, r1) ∧ decStr s r1 = some (name, r2) ∧ decSattr3 r2 = some (sa, r3) ∧
      nodeOf s hd = some n ∧
      Fs.ownerAt s'.fs (fsPath (joinName n.path name)) = some (ownerUid c sa, ownerGid c sa) ∧
      ∀ q, q ≠ fsPath (joinName n.path name) → Fs.ownerAt s'.fs q = Fs.ownerAt s.fs q := by
  cases h ▸ procMkdir_run s c args with
  | refused hr => exact hr.not_ok.elim
  | run _ hfh hname _ hsa _ hn hrun =>
    refine ⟨_, _, _, _, _, _, _, hfh, hname, hsa, hn, ?_⟩
    cases hrun with
    | attrFailed _ hr | opFailed _ _ hr | lookupFailed _ _ _ hr => exact (errno_not_ok hr).elim
    | made hg hop hl ht =>
      have hfs : s'.fs = _ := ht.fs.trans (lookupPath_acOnly hl).fs
      rw [hfs, ← (getAttr_acOnly hg).fs]
      exact owner_made ((Fs.mkdir_upd hop).proj _) (chownQuiet_owner (Fs.mkdir_then_walk hop) nofun _ _)

/-- SYMLINK that succeeds: the same for the new link (Lchown: the link itself, not its target). -/
theorem symlink_owner (s s' : St) (c : Ctx) (args : Bytes) (body : Rfc.Body)
    (h : procSymlink s c args = (s', .res ⟨0, body⟩)) :
    ∃ (hd : Nat) (r1 r2 r3 r4 name target : Bytes) (sa : Sattr3) (n : Node),
      decFh' s args = some (hd, r1) ∧ decStr s r1 = some (name, r2) ∧ decSattr3 r2 = some (sa, r3) ∧
      decStr s r3 = some (target, r4) ∧ nodeOf s hd = some n ∧
      Fs.ownerAt s'.fs (fsPath (joinName n.path name)) = some (ownerUid c sa, ownerGid c sa) ∧
      ∀ q, q ≠ fsPath (joinName n.path name) → Fs.ownerAt s'.fs q = Fs.ownerAt s.fs q := by
  cases h ▸ procSymlink_run s c args with
  | refused hr => exact hr.not_ok.elim
  | run _ hfh hname _ hsa htarget _ _ _ hn hrun =>
    refine ⟨_, _, _, _, _, _, _, _, _, hfh, hname, hsa, htarget, hn, ?_⟩
    cases hrun with
    | attrFailed _ hr | opFailed _ _ hr => exact (errno_not_ok hr).elim
    | made hg hop ht =>
      have hfs : s'.fs = _ := ht.fs
      rw [hfs, ← (getAttr_acOnly hg).fs]
      cases hop ▸ symlinkOp_run .. with
      | dotdot _ hr | failed _ hr => cases hr
      | made hl hr =>
        cases (lookupPath_acOnly hr.symm).fs
        exact owner_made ((Fs.symlink_upd hl).proj _) (lchownQuiet_owner (Fs.symlink_then_walk hl) _ _)

/-- CREATE that succeeds, in every state satisfying the server invariant (hence after every history): a file
    that did not exist is recorded as owned by that identity and no other object changes owner; a CREATE over a
    name that was taken changes no owner. -/
theorem create_owner (s s' : St) (c : Ctx) (args : Bytes) (body : Rfc.Body) (h : CInv s)
    (heq : procCreate s c args = (s', .res ⟨0, body⟩)) :
    ∃ (hd how : Nat) (r1 r2 r3 name verf : Bytes) (sa : Sattr3) (n : Node),
      decFh' s args = some (hd, r1) ∧ decStr s r1 = some (name, r2) ∧ decU32 r2 = some (how, r3) ∧
      parseCreateHow how r3 = some (sa, verf) ∧ nodeOf s hd = some n ∧
      ((∃ err, Fs.lstat s.fs (fsPath (joinName n.path name)) = .error err) →
        Fs.ownerAt s'.fs (fsPath (joinName n.path name)) = some (ownerUid c sa, ownerGid c sa) ∧
        ∀ q, q ≠ fsPath (joinName n.path name) → Fs.ownerAt s'.fs q = Fs.ownerAt s.fs q) ∧
      ((∃ info, Fs.lstat s.fs (fsPath (joinName n.path name)) = .ok info) → ∀ q, Fs.ownerAt s'.fs q = Fs.ownerAt s.fs q) := by
  cases heq ▸ procCreate_run s c args with
  | refused hr => exact hr.not_ok.elim
  | run _ hfh hname _ hhow hparse _ hn hrun =>
    refine ⟨_, _, _, _, _, _, _, _, _, hfh, hname, hhow, hparse, hn, ?_⟩
    cases hrun with
    | attrFailed _ hr => exact (errno_not_ok hr).elim
    | existing hg hi hr =>
      rw [← (getAttr_acOnly hg).fs]
      exact ⟨fun ⟨_, herr⟩ => (nomatch herr.symm.trans hi), fun _ => createExisting_owner hr.symm⟩
    | fresh hg hi hr =>
      rw [← (getAttr_acOnly hg).fs]
      exact ⟨fun _ => createNew_owner ((getAttr_acOnly hg).fs ▸ h.wf) hi hr.symm, fun ⟨_, hok⟩ => (nomatch hok.symm.trans hi)⟩

/-- non-vacuity: uid 1000 asking for uid 0 gets 1000 -/
example : ownerUid { now := 0, uid := 1000, gid := 1000, aux := [] } { uid := some 0, gid := some 0 } = 1000 := by decide

/-- regenerated from the source on every run: the connection loop builds the authentication context inside its request loop, from that call's credential (the model's per-call identity) -/
theorem gen_conn_loop_identity_per_call : Gen.connLoopAuthPerCall = true := by decide

/-- regenerated from the source on every run: HandleCall copies the squashed identity into the request context for every flavor (AUTH_NONE runs as nobody, not as the zero value) -/
theorem gen_identity_applied : Gen.handleCallAppliesIdentity = true := by decide

/-- the squash mode the identities are computed under cannot be changed — or dropped — by a runtime policy update:
    UpdatePolicyOptions returns early on `old.Squash != newPolicy.Squash` (an empty value included) -/
theorem gen_squash_immutable : Gen.updatePolicyRejectsAnySquashChange = true := by decide

end Props.C11
