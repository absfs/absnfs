/-
  C04 — Reported attributes are consistent across procedures and with the backend.
  Every attribute block the server sends is `toFattr a` of some `Attrs a`; `a` comes from one of three places:
  GetAttr (a fresh Lstat of the handle's path), Lookup (Lstat, or the attribute cache), or the node stored under
  the handle. The theorems say what each source guarantees; the fileid of a path is always `fnv64 path`.
-/
import Absnfs.ServerAttrs
import Absnfs.ServerReplies
import Absnfs.ServerMade
import Gen.Facts
open Absnfs Absnfs.Server

namespace Props.C04

theorem gen_readdirplus_and_setattr : (Gen.readdirplusUsesLstat && Gen.setattrKeepsType) = true := by decide
/-- LOOKUP takes the directory's attributes from GetAttr (the model's `lookupDirAttr`), WRITE refuses links -/
theorem gen_lookup_dirattrs_and_write : (Gen.lookupDirAttrsFromGetAttr && Gen.writeRefusesSymlink) = true := by decide

/-- the wire attributes are a function of (kind, perm, size, fileid): type from the kind Lstat reported
    (regular 1, directory 2, symbolic link 5) — symbolic links are always reported as links -/
theorem wire_attributes (a : Attrs) : (toFattr a).ftype = kindCode a.kind ∧ (toFattr a).fileid = a.fileId ∧
    (toFattr a).size = a.size ∧ (toFattr a).mode = a.perm % 512 := ⟨rfl, rfl, rfl, rfl⟩

theorem link_is_link (a : Attrs) (h : a.kind = .link) : (toFattr a).ftype = 5 := by
  show kindCode a.kind = 5
  rw [h]; rfl

/-- Source 1 — GetAttr (GETATTR, ACCESS, READ, READLINK, FSSTAT/FSINFO/PATHCONF, every wcc post-op block, the
    directory attributes of READDIR/READDIRPLUS): type, size and permission bits are the backend's lstat of the
    handle's path at that moment, fileid is the path's. -/
theorem getattr_source_matches_backend {s s' : St} {now : Nat} {n : Node} {a : Attrs}
    (h : getAttr s now n = (s', .ok a)) : MatchesLstat s.fs n.path a := getAttr_matches h

/-- GETATTR, at handler level: the attributes in the reply are the backend's lstat of the handle's path, with that
    path's fileid. -/
theorem getattr_reply (s s' : St) (c : Ctx) (args : Bytes) (fa : Rfc.Fattr)
    (h : procGetattr s c args = (s', .res ⟨0, .attr fa⟩)) :
    ∃ hd r n a, decFh' s args = some (hd, r) ∧ nodeOf s hd = some n ∧ MatchesLstat s.fs n.path a ∧ fa = toFattr a := by
  cases h ▸ procGetattr_run s c args with
  | refused hr => exact hr.not_ok.elim
  | run hfh hn ht =>
    obtain ⟨a, hg, hk⟩ := ht.of_ok
    cases hk
    exact ⟨_, _, _, a, hfh, hn, getAttr_matches hg, rfl⟩

/-- Source 2 — Lookup (LOOKUP's object, CREATE/MKDIR/SYMLINK results, MNT, READDIR entries): the same, provided
    the attribute cache is coherent (every positive entry matches the backend, every negative entry names a
    path whose lstat fails). On a cache miss it is unconditional. -/
theorem lookup_source_matches_backend {s s' : St} {now : Nat} {p : Bytes} (hc : AcCoherent s) (node : Node)
    (h : lookupPath s now p = (s', .ok node)) : node.path = p ∧ MatchesLstat s.fs p node.attrs :=
  (lookupPath_sound hc).1 node h

theorem lookup_error_means_absent {s s' : St} {now : Nat} {p : Bytes} (hc : AcCoherent s) (st : Fs.Errno)
    (h : lookupPath s now p = (s', .error st)) : p = [] ∨ ∃ err, Fs.lstat s.fs (fsPath p) = .error err :=
  (lookupPath_sound hc).2 st h

/-- an empty cache is coherent (a freshly created server; also after Unexport) -/
theorem empty_cache_coherent (s : St) (h : s.ac.entries = []) : AcCoherent s := by
  intro e he; rw [h] at he; cases he

/-- Source 3 — the node under the handle. SETATTR never changes its type or fileid (only permission bits and,
    for an effective root, uid/gid come from the request; `setattrApply` is SETATTR after the optional truncation). -/
theorem setattr_keeps_type_and_fileid (s2 : St) (c : Ctx) (h : Nat) (sa : Sattr3) (pre : Attrs) (n2 : Node)
    (hn2 : nodeOf s2 h = some n2) :
    ∃ n', nodeOf (setattrApply s2 c h sa pre).1 h = some n' ∧ n'.path = n2.path ∧
      n'.attrs.kind = n2.attrs.kind ∧ n'.attrs.fileId = n2.attrs.fileId := by
  have hk := setattrTarget_keeps c sa n2.attrs
  have after : ∀ {s3 ts r}, setAttrOp s2 h n2 (setattrTarget c sa n2.attrs) ts = (s3, r) →
      ∃ n', nodeOf s3 h = some n' ∧ n'.path = n2.path ∧ n'.attrs.kind = n2.attrs.kind ∧ n'.attrs.fileId = n2.attrs.fileId :=
    fun hop => (setAttrOp_nodeOf hn2 hop).elim (fun h => ⟨_, h, rfl, rfl, rfl⟩) fun h => ⟨_, h, rfl, hk.1, hk.2.1⟩
  cases setattrApply_run s2 c h sa pre with
  | noNode hn => rw [hn2] at hn; cases hn
  | opFailed hn hop hr => rw [hn2] at hn; cases hn; rw [hr]; exact after hop
  | applied hn hop ht =>
    rw [hn2] at hn
    cases hn
    rw [ht.acOnly.nodeOf]
    exact after hop

theorem setattr_target_attributes (c : Ctx) (sa : Sattr3) (a0 : Attrs) :
    (setattrTarget c sa a0).kind = a0.kind ∧ (setattrTarget c sa a0).fileId = a0.fileId ∧
    (setattrTarget c sa a0).size = a0.size := setattrTarget_keeps c sa a0

/-- READDIRPLUS's refresh keeps every entry's path and fileid (type, size, mode come from Lstat). -/
theorem readdirplus_refresh_keeps_fileids (s : St) (now : Nat) (l : List Node) :
    (refreshEach s now l).2.map (·.path) = l.map (·.path) ∧
    (refreshEach s now l).2.map (·.attrs.fileId) = l.map (·.attrs.fileId) := by
  rw [refreshEach_snd, List.map_map, List.map_map]
  exact ⟨List.map_congr_left fun n _ => refreshed_path .., List.map_congr_left fun n _ => refreshed_fileId ..⟩

/-- two blocks for the same path from sources 1 and 2 carry the same fileid and, the backend being unchanged
    in between, the same type, size and mode -/
theorem same_path_same_attributes (fs : Fs.T) (p : Bytes) (a b : Attrs) (ha : MatchesLstat fs p a) (hb : MatchesLstat fs p b) :
    a.kind = b.kind ∧ a.size = b.size ∧ a.perm = b.perm ∧ a.fileId = b.fileId := by
  obtain ⟨i, hi, h1, h2, h3, h4⟩ := ha
  obtain ⟨j, hj, g1, g2, g3, g4⟩ := hb
  cases hi.symm.trans hj
  exact ⟨h1.trans g1.symm, h2.trans g2.symm, h3.trans g3.symm, h4.trans g4.symm⟩

/-- Source 2 at handler level, with the coherence hypothesis discharged: after any history of requests on a new
    server, an OK LOOKUP reply carries — for the object — the backend's lstat of dir-path/name (type, size, mode,
    that path's fileid), cache hit or not, and — for the directory — the backend's lstat of the directory
    handle's path (fetched with GetAttr, not taken from the handle's snapshot). -/
theorem lookup_reply_after_any_history (s0 : St) (rs : List Req) (h0 : CInv s0) (s' : St) (c : Ctx) (args : Bytes) (fh : Nat)
    (fa : Rfc.Fattr) (da : Option Rfc.Fattr)
    (h : procLookup (runReqs s0 rs) c args = (s', .res ⟨0, .lookupOk fh (some fa) da⟩)) :
    ∃ hd r1 name r2 n a, decFh' (runReqs s0 rs) args = some (hd, r1) ∧ decStr (runReqs s0 rs) r1 = some (name, r2) ∧
      nodeOf (runReqs s0 rs) hd = some n ∧ MatchesLstat (runReqs s0 rs).fs (joinName n.path name) a ∧ fa = toFattr a ∧
      (∀ i, Fs.lstat (runReqs s0 rs).fs (fsPath n.path) = .ok i →
        ∃ b, MatchesLstat (runReqs s0 rs).fs n.path b ∧ da = some (toFattr b)) :=
  procLookup_matches _ s' c args fh fa da (runReqs_cinv s0 rs h0).coh h

/-- MNT hands out a handle only for a path the backend has (whatever the cache holds) -/
theorem mnt_only_existing (s s' : St) (c : Ctx) (args : Bytes) (fhb : Bytes) (auth : List Nat) (hc : AcCoherent s)
    (h : procMnt s c args = (s', .res ⟨0, .mntOk fhb auth⟩)) :
    ∃ raw r a, decStr s args = some (raw, r) ∧ MatchesLstat s.fs (cleanAbs raw) a := by
  cases h ▸ procMnt_run s c args with
  | garbage _ hr => cases hr
  | relative _ _ hr | absent _ _ hr => exact absurd (res_inj hr).2.1 (by decide)
  | badName _ hb hr => exact absurd (res_inj hr).2.1.symm hb
  | ok hd hl _ => exact ⟨_, _, _, hd, ((lookupPath_sound hc).1 _ hl).2⟩

/-- READDIRPLUS, handler level, after any history: every entry of an NFS3_OK page is (name, fileid, attributes) of
    one path of the listing, and those attributes are the backend's lstat of that path at the time of the call
    (type, size, permission bits; the path's fileid) — the same block GETATTR or LOOKUP would send for it. -/
theorem readdirplus_entries_after_any_history (s0 : St) (rs : List Req) (h0 : CInv s0) (s' : St) (c : Ctx) (args : Bytes)
    (a : Option Rfc.Fattr) (verf : Bytes) (ents : List Rfc.DirEntPlus) (eof : Bool)
    (h : procReaddirplus (runReqs s0 rs) c args = (s', .res ⟨0, .readdirplusOk a verf ents eof⟩)) :
    ∀ e ∈ ents, ∃ n : Node, e.name = baseName n.path ∧ e.attr = some (toFattr n.attrs) ∧ e.fileid = n.attrs.fileId ∧
      MatchesLstat (runReqs s0 rs).fs n.path n.attrs :=
  procReaddirplus_entries _ s' c args a verf ents eof (runReqs_cinv s0 rs h0).1 h

/-- CREATE / MKDIR / SYMLINK results, after any history: the attributes in an NFS3_OK reply are — in the state the
    reply leaves behind — the backend's lstat of the new object's path (type, size, permission bits; that path's
    fileid), and they are the attributes stored under the returned handle. -/
theorem create_result_matches_backend (s0 : St) (rs : List Req) (h0 : CInv s0) (s' : St) (c : Ctx) (args : Bytes) (fh : Nat)
    (fa : Rfc.Fattr) (w : Rfc.Wcc) (h : procCreate (runReqs s0 rs) c args = (s', CreatedOk fh fa w)) :
    ∃ hd r1 name r2 n a, decFh' (runReqs s0 rs) args = some (hd, r1) ∧ decStr (runReqs s0 rs) r1 = some (name, r2) ∧
      nodeOf (runReqs s0 rs) hd = some n ∧ nodeOf s' fh = some { path := joinName n.path name, attrs := a } ∧ fa = toFattr a ∧
      MatchesLstat s'.fs (joinName n.path name) a :=
  (procCreate_creation (runReqs_cinv s0 rs h0) h).handle

theorem mkdir_result_matches_backend (s0 : St) (rs : List Req) (h0 : CInv s0) (s' : St) (c : Ctx) (args : Bytes) (fh : Nat)
    (fa : Rfc.Fattr) (w : Rfc.Wcc) (h : procMkdir (runReqs s0 rs) c args = (s', CreatedOk fh fa w)) :
    ∃ hd r1 name r2 n a, decFh' (runReqs s0 rs) args = some (hd, r1) ∧ decStr (runReqs s0 rs) r1 = some (name, r2) ∧
      nodeOf (runReqs s0 rs) hd = some n ∧ nodeOf s' fh = some { path := joinName n.path name, attrs := a } ∧ fa = toFattr a ∧
      MatchesLstat s'.fs (joinName n.path name) a :=
  (procMkdir_creation (runReqs_cinv s0 rs h0) h).handle

theorem symlink_result_matches_backend (s0 : St) (rs : List Req) (h0 : CInv s0) (s' : St) (c : Ctx) (args : Bytes) (fh : Nat)
    (fa : Rfc.Fattr) (w : Rfc.Wcc) (h : procSymlink (runReqs s0 rs) c args = (s', CreatedOk fh fa w)) :
    ∃ hd r1 name r2 n a, decFh' (runReqs s0 rs) args = some (hd, r1) ∧ decStr (runReqs s0 rs) r1 = some (name, r2) ∧
      nodeOf (runReqs s0 rs) hd = some n ∧ nodeOf s' fh = some { path := joinName n.path name, attrs := a } ∧ fa = toFattr a ∧
      MatchesLstat s'.fs (joinName n.path name) a :=
  (procSymlink_creation (runReqs_cinv s0 rs h0) h).handle

/-- regenerated from the source on every run: MNT cleans the requested path before anything is derived from it (the model's cleanAbs) -/
theorem gen_mnt_cleans_path : Gen.mntCleansPath = true := by decide

end Props.C04
