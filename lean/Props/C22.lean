/-
  C22 — Data acknowledged as stable survives a crash.
  The backend's crash behaviour is the `Durable` model (volatile contents, durable contents, Sync copies, a
  crash reverts): the reference backend implements it and is compared with it operation by operation. The
  server's part is structural and regenerated from the source on every run: WriteWithContext syncs after
  WriteAt and before anything else (so before handleWrite builds the FILE_SYNC reply), handleCommit opens the
  file and syncs it, the write verifier is written exactly once, in NewServer.
  "Every crash point" = any position in the backend operation sequence (`pre ++ … ++ post`, `post` arbitrary
  operations without a Sync).
-/
import Absnfs.Durable
import Gen.Facts
open Absnfs Absnfs.Durable

namespace Props.C22

theorem gen_write_syncs : (Gen.writeSyncsBeforeAck && Gen.writeRepliesFileSync) = true := by decide
theorem gen_commit_syncs : Gen.commitSyncs = true := by decide
/-- the verifier is written once, when the Server value is created (from the wall clock in nanoseconds): it
    cannot change during the life of an instance; that two instances differ is checked at run time -/
theorem gen_verifier_once : Gen.writeVerfSetOnceAtCreation = true := by decide

/-- Data acknowledged by a WRITE reply (committed = FILE_SYNC): at every later crash point before another
    Sync the file holds exactly what that WRITE produced. -/
theorem acknowledged_write_survives (f : File) (pre : List Op) (off : Nat) (w : Bytes) (post : List Op)
    (h : ∀ o ∈ post, isSync o = false) :
    (crash (run f (pre ++ srvWrite off w ++ post))).data = Fs.writeBytes (run f pre).data off w := by
  have : pre ++ srvWrite off w = (pre ++ [.writeAt off w]) ++ [.sync] :=
    (List.append_assoc pre [.writeAt off w] [.sync]).symm
  rw [this, crash_restores_last_sync _ _ _ h, run_append]
  rfl

/-- Every acknowledged payload byte is there after the crash. -/
theorem acknowledged_bytes_present (f : File) (pre : List Op) (off : Nat) (w : Bytes) (post : List Op)
    (h : ∀ o ∈ post, isSync o = false) (hw : w ≠ []) (i : Nat) (hi : i < w.length) :
    (crash (run f (pre ++ srvWrite off w ++ post))).data.getD (off + i) 0 = w.getD i 0 := by
  rw [acknowledged_write_survives f pre off w post h, Fs.writeBytes_getD,
    if_pos ⟨Nat.le_add_right .., Nat.add_lt_add_left hi _⟩, Nat.add_sub_cancel_left]

/-- Data covered by a later successful COMMIT (writes not yet synced, truncations and extensions) survives. -/
theorem commit_covers (f : File) (pre post : List Op) (h : ∀ o ∈ post, isSync o = false) :
    (crash (run f (pre ++ srvCommit ++ post))).data = (run f pre).data :=
  crash_restores_last_sync f pre post h

/-- A crash never reverts past the last Sync. -/
theorem crash_restores_exactly_last_sync (f : File) (pre post : List Op) (h : ∀ o ∈ post, isSync o = false) :
    (crash (run f (pre ++ [.sync] ++ post))).data = (run f pre).data :=
  crash_restores_last_sync f pre post h

/-- the defect the check found on the original tree: WriteAt without Sync is lost by a crash -/
example : (crash (run ⟨[], []⟩ [.writeAt 0 [1, 2, 3]])).data = [] := by decide
example : (crash (run ⟨[], []⟩ (srvWrite 0 [1, 2, 3] ++ [.writeAt 1 [9]]))).data = [1, 2, 3] := by decide

/-- regenerated from the source on every run: COMMIT returns an error when it cannot open the file for the flush -/
theorem gen_commit_open_failure : Gen.commitFailsWhenOpenFails = true := by decide

/-- the count in a WRITE reply is the number of bytes the backend wrote and synced, not the number requested -/
theorem gen_write_reply_count : Gen.writeReplyCountIsBytesWritten = true := by decide

end Props.C22
