/-
  C02 — Namespace operations refine a POSIX tree model; caches are transparent.
  The tree model is the backing-filesystem model `Fs` (flat map from paths to entries with POSIX resolution),
  which the reference backend implements and is compared with operation by operation. The Lean server model
  applies each request to it, and the real server is replayed against the server model request by request
  under every cache configuration (so "each reply's success or failure and the resulting tree agree with the
  tree model" is the correspondence, over unbounded Lean semantics but sampled histories).
  PROVED here (all states, all argument byte strings, all histories, no bound): the cache-transparency core —
   * `CInv` (Absnfs/ServerInv.lean): every attribute-cache entry, positive or negative, agrees with what the
     backend's Lstat says at its path; keys are unique clean paths; the handle table holds clean paths; the
     backend model is well-formed. It holds for a new server and **every request keeps it** — every program,
     version, procedure and argument byte string, including the procedures that change the backend (SETATTR,
     WRITE, CREATE, MKDIR, SYMLINK, REMOVE, RMDIR, RENAME): their invalidations cover everything their backend
     operation changes (`handle_cinv`, `history_keeps_cinv`). The proof goes through the frame of each
     backend operation (what Lstat shows changes only at the operation's own path; for Rename only at or below
     the two names — Absnfs/FsFrame.lean, FsRename.lean), the injectivity of the path encoding on the paths
     the server builds (Absnfs/ServerPaths.lean), and every component prefix of such a path passing the byte-prefix
     test of InvalidatePrefix (`underPrefix_of_prefix`).
   * a CREATE, MKDIR, SYMLINK, REMOVE, RMDIR or RENAME answered with an error status has left the backend tree
     exactly as it was (`failed_*_leaves_tree`; Absnfs/ServerMade.lean, ServerFailed.lean);
   * hence after any history a LOOKUP — whether it hits the cache, hits a negative entry or misses — reports
     exactly the backend's existence, type, size and mode, with the path's fileid (`lookup_after_any_history`; at
     handler level `lookup_ok_iff_backend_has_it`): caching is invisible in LOOKUP replies for every TTL, size and
     negative-cache setting.
   * the directory-listing cache (`DcSup`, Absnfs/ServerDcSup.lean): after every history every cached listing is
     in strictly increasing name order and names every object the backend has directly below the listing's key.
     Hence the node list READDIR / READDIRPLUS work from — answered from the cache or from the backend — *is* the
     backend's directory in name order, restricted to the names the listing loop accepts
     (`listing_is_the_backend_after_any_history`, in membership form `listing_misses_nothing`; `listing_invents_nothing`
     needs `CInv` alone; `dircache_never_hides_a_name` is the invariant spelt out): the directory cache is invisible for
     every TTL, size and max-dir-size setting.
     "Every cached listing equals the backend's listing of its key" is false of code and model alike (DESIGN §11.7);
     the superset is the invariant that holds, the one a forgotten dirCache.Invalidate breaks, and — because every
     cached name is looked up again — enough for equality of the replies. It needs the backend model to store no
     path twice (`Fs.WF` says so, and every backend operation keeps it).
  The backend is the `Fs` model (errors only where the model has them: a backend that fails Chown after a
  successful Chmod would leave SetAttr's early return without an invalidation; that is outside the model, in which
  SetAttr on a well-formed backend fails only where its Lstat does: `setAttrOp_wf`).
-/
import Absnfs.ServerCoherent
import Absnfs.ServerReplies
import Absnfs.ServerInvProcs
import Absnfs.ServerMade
import Absnfs.FsReach
import Absnfs.ServerListing
import Absnfs.ServerDcSup
import Gen.Facts
open Absnfs Absnfs.Server

namespace Props.C02

theorem gen_invalidations : (Gen.mkdirInvalidates && Gen.renameInvalidatesPrefix && Gen.rmdirUsesLstat) = true := by decide

/-- every cache invalidation call of the modifying operations, in source order, as regenerated from operations.go
    and the handlers on this run: these are the invalidations the model's operations perform (`invalidateForNew`,
    `removeOp`, `renameOp`, `setAttrOp`, `writeOp`, `createStep1`, `procMkdir`, `procRmdir`, `setattrSize`), which
    the `CInv` theorems below are about -/
theorem gen_invalidation_sites : Gen.invalidationSites =
    [("CreateWithContext", ["attrCache.Invalidate(dir.path)", "attrCache.InvalidateNegativeInDir(dir.path)", "attrCache.Invalidate(path)", "dirCache.Invalidate(dir.path)"]),
     ("RemoveWithContext", ["attrCache.Invalidate(path)", "attrCache.Invalidate(dir.path)", "dirCache.Invalidate(dir.path)"]),
     ("RenameWithContext", ["attrCache.InvalidatePrefix(oldPath)", "attrCache.InvalidatePrefix(newPath)", "attrCache.Invalidate(oldDir.path)", "attrCache.Invalidate(newDir.path)", "attrCache.InvalidateNegativeInDir(oldDir.path)", "attrCache.InvalidateNegativeInDir(newDir.path)", "dirCache.Invalidate(oldDir.path)", "dirCache.Invalidate(newDir.path)", "dirCache.InvalidatePrefix(oldPath)", "dirCache.InvalidatePrefix(newPath)"]),
     ("SetAttr", ["attrCache.Invalidate(node.path)"]),
     ("Symlink", ["attrCache.Invalidate(dir.path)", "attrCache.InvalidateNegativeInDir(dir.path)", "attrCache.Invalidate(path)", "dirCache.Invalidate(dir.path)"]),
     ("WriteWithContext", ["attrCache.Invalidate(node.path)"]),
     ("handleCreate", ["attrCache.Invalidate(lookupPath)"]),
     ("handleMkdir", ["attrCache.Invalidate(node.path)", "attrCache.InvalidateNegativeInDir(node.path)", "attrCache.Invalidate(dirPath)", "dirCache.Invalidate(node.path)"]),
     ("handleRmdir", ["attrCache.Invalidate(targetPath)", "attrCache.Invalidate(node.path)", "dirCache.Invalidate(node.path)", "dirCache.Invalidate(targetPath)"]),
     ("handleSetattr", ["attrCache.Invalidate(node.path)"])] := rfl

/-- WRITE refuses a symbolic link's handle before the backend is touched (the model's `pre.kind = .link` test) -/
theorem gen_write_refuses_symlink : Gen.writeRefusesSymlink = true := by decide

/-- every way of filling the cache stores the Lstat of that step -/
theorem lookup_keeps_coherent (s : St) (now : Nat) (p : Bytes) (hc : AcCoherent s) : AcCoherent (lookupPath s now p).1 :=
  lookupPath_coherent rfl hc
theorem getattr_keeps_coherent (s : St) (now : Nat) (n : Node) (hc : AcCoherent s) : AcCoherent (getAttr s now n).1 :=
  getAttr_coherent rfl hc
theorem readdirplus_refresh_keeps_coherent (s : St) (now : Nat) (l : List Node) (hc : AcCoherent s)
    (hids : ∀ n ∈ l, n.attrs.fileId = fnv64 n.path) : AcCoherent (refreshEach s now l).1 :=
  refreshEach_induct (fun n _ h => acGet_coherent _ now n.path h)
    (fun n i hn hi h => acPut_coherent _ now n.path _ h ⟨i, hi, rfl, rfl, rfl, by exact hids n hn⟩) hc

/-- the procedures that do not modify the backend keep the cache coherent, for every argument byte string -/
theorem getattr_proc (s : St) (c : Ctx) (a : Bytes) (hc : AcCoherent s) : AcCoherent (procGetattr s c a).1 := by
  cases procGetattr_run s c a with
  | refused hr => rw [hr.fst]; exact hc
  | run _ _ ht => exact ht.coherent hc
theorem lookup_proc (s : St) (c : Ctx) (a : Bytes) (hc : AcCoherent s) : AcCoherent (procLookup s c a).1 := by
  cases procLookup_run s c a with
  | refused hr => rw [hr.fst]; exact hc
  | run _ _ _ _ hrun =>
    -- every path ends with the directory's attributes: `lookupDirAttr t …` leaves `(getAttrOr t …).1`
    cases hrun with
    | notDir _ hr => rw [hr]; exact getAttrOr_coherent _ _ _ _ hc
    | absent _ hl hr => rw [hr]; exact getAttrOr_coherent _ _ _ _ (lookupPath_coherent hl hc)
    | ok _ hl hr => rw [hr]; exact getAttrOr_coherent _ _ _ _ (allocate_coherent _ _ (lookupPath_coherent hl hc))
theorem access_proc (s : St) (c : Ctx) (a : Bytes) (hc : AcCoherent s) : AcCoherent (procAccess s c a).1 := by
  cases procAccess_run s c a with
  | refused hr => rw [hr.fst]; exact hc
  | run _ _ _ ht => exact ht.coherent hc
theorem readlink_proc (s : St) (c : Ctx) (a : Bytes) (hc : AcCoherent s) : AcCoherent (procReadlink s c a).1 := by
  cases procReadlink_run s c a with
  | refused hr => rw [hr.fst]; exact hc
  | run _ _ _ _ _ ht => exact ht.coherent hc
theorem read_proc (s : St) (c : Ctx) (a : Bytes) (hc : AcCoherent s) : AcCoherent (procRead s c a).1 := by
  cases procRead_run s c a with
  | refused hr => rw [hr.fst]; exact hc
  | run _ _ _ _ _ _ _ ht => exact ht.coherent hc
theorem readdir_proc (s : St) (c : Ctx) (a : Bytes) (hc : AcCoherent s) : AcCoherent (procReaddir s c a).1 := by
  cases procReaddir_run s c a with
  | refused hr => rw [hr.fst]; exact hc
  | run _ _ _ _ _ _ hrun =>
    cases hrun with
    | readFailed hrd hr => rw [hr]; exact (readDir_sound hrd hc).1
    | attrFailed hrd hg hr | tooSmall hrd hg _ hr | ok hrd hg _ hr =>
      rw [hr]; exact getAttr_coherent hg (readDir_sound hrd hc).1
theorem fs_procs (s : St) (c : Ctx) (a : Bytes) (k : Rfc.Fattr → Rfc.Body) (hc : AcCoherent s) :
    AcCoherent (withObjAttr s c a k).1 := by
  cases withObjAttr_run s c a k with
  | refused hr => rw [hr.fst]; exact hc
  | run _ _ ht => exact ht.coherent hc
theorem mnt_proc (s : St) (c : Ctx) (a : Bytes) (hc : AcCoherent s) : AcCoherent (procMnt s c a).1 := by
  cases procMnt_run s c a with
  | garbage _ hr | relative _ _ hr | badName _ _ hr => rw [hr]; exact hc
  | absent _ hl hr => rw [hr]; exact lookupPath_coherent hl hc
  | ok _ hl hr => rw [hr]; exact allocate_coherent _ _ (lookupPath_coherent hl hc)

/-- the invalidation primitives remove what they name (C21's theorems, restated on the attribute cache):
    Invalidate removes the key; InvalidateNegativeInDir removes exactly the negative direct children;
    InvalidatePrefix removes the path and everything below it -/
theorem invalidate_removes_key (c : Lru.Cache Attrs) (k : Bytes) (hI : Lru.Inv c) : k ∉ Lru.keys (Lru.invalidate c k) :=
  Lru.not_mem_keys_invalidate hI k

theorem invalidatePrefix_removes (c : Lru.Cache Attrs) (path : Bytes) :
    ∀ e ∈ (Lru.invalidatePrefix c path).entries, Lru.underPrefix e.key path = false :=
  fun _ he => (Lru.invalidatePrefix_mem he).2

/-- what CREATE / MKDIR / SYMLINK invalidate for a new object at `path` in directory `dir`: the directory's and
    the path's attribute entries, the negative entries of the directory's children, the directory's listing -/
theorem new_object_invalidations (s : St) (dir path : Bytes) :
    invalidateForNew s dir path = dcInv (acInv (acInvNegIn (acInv s dir) dir) path) dir := rfl

/-- a new server — empty attribute cache, empty handle table, over any well-formed backend tree — satisfies the invariant -/
theorem new_server_cinv (s : St) (hac : s.ac.entries = []) (hcap : 0 < s.ac.cap) (raw : Int) (hhs : s.hs = Handles.init raw)
    (hdm : 0 < s.cfg.defaultMaxHandles) (hwf : Fs.WF s.fs)
    (hdc : ∀ c, s.dc = some c → c.entries = [] ∧ 0 < c.cap) : CInv s where
  coh := by intro e he; rw [hac] at he; simp at he
  lru := ⟨by simp [Lru.keys, hac], by simp [hac], hcap⟩
  keys := by intro e he; rw [hac] at he; simp at he
  hcl := by intro x hx; rw [hhs] at hx; simp [Handles.init] at hx
  wf := hwf
  htab := by rw [hhs]; exact Handles.inv_init _ raw
  hdm := hdm
  dci := by
    intro c hc
    obtain ⟨he, hcap⟩ := hdc c hc
    exact ⟨by simp [Lru.keys, he], by simp [he], hcap⟩

/-- the empty backend is well-formed, and the operations that populate it keep it so -/
theorem empty_backend_wf (m : Nat) : Fs.WF (Fs.empty m) := Fs.wf_empty m
theorem mkdir_keeps_wf {fs fs1 : Fs.T} {p : Fs.Path} {perm : Nat} (h : Fs.mkdir fs p perm = .ok fs1) (hw : Fs.WF fs) : Fs.WF fs1 :=
  (Fs.mkdir_upd h).wf hw
theorem symlink_keeps_wf {fs fs1 : Fs.T} {p : Fs.Path} {t : Bytes} (h : Fs.symlink fs t p = .ok fs1) (hw : Fs.WF fs) : Fs.WF fs1 :=
  (Fs.symlink_upd h).wf hw
theorem rename_keeps_wf {fs fs1 : Fs.T} {a b : Fs.Path} (h : Fs.rename fs a b = .ok fs1) (hw : Fs.WF fs) : Fs.WF fs1 :=
  (Fs.rename_frame h hw).1
theorem remove_keeps_wf {fs fs1 : Fs.T} {p : Fs.Path} (h : Fs.remove fs p = .ok fs1) (hw : Fs.WF fs) : Fs.WF fs1 :=
  (Fs.remove_upd h).wf hw

/-- every backend tree built from the empty one with the backend's own operations (Mkdir, Symlink, Create,
    WriteAt, Truncate, Chmod, Chown, Lchown, Remove, Rename; failing ones change nothing) is well-formed: the
    hypothesis of `new_server_cinv` holds for every tree a server can be started on -/
theorem reachable_backend_wf (m : Nat) (ops : List Fs.Op) : Fs.WF (ops.foldl Fs.applyOp (Fs.empty m)) :=
  List.foldlRecOn ops _ (Fs.wf_empty m) fun fs hw op _ => Fs.applyOp_wf fs op hw

/-- every request keeps the invariant: the server's own mutations never leave a stale attribute or negative entry -/
theorem handle_cinv (s : St) (c : Ctx) (prog vers proc : Nat) (args : Bytes) (h : CInv s) :
    CInv (handle s c prog vers proc args).1 := Server.handle_cinv s c prog vers proc args h

theorem history_keeps_cinv (s : St) (rs : List Req) (h : CInv s) : CInv (runReqs s rs) := runReqs_cinv s rs h

/-- C02, cache transparency of LOOKUP: after any history of requests on a new server, whatever the cache
    configuration, a lookup of any path answers as the backend would at that moment -/
theorem lookup_after_any_history (s0 : St) (rs : List Req) (h0 : CInv s0) (now : Nat) (p : Bytes) (s' : St) :
    (∀ node, lookupPath (runReqs s0 rs) now p = (s', .ok node) →
        node.path = p ∧ MatchesLstat (runReqs s0 rs).fs p node.attrs) ∧
    (∀ st, lookupPath (runReqs s0 rs) now p = (s', .error st) →
        p = [] ∨ ∃ err, Fs.lstat (runReqs s0 rs).fs (fsPath p) = .error err) :=
  lookupPath_sound (history_keeps_cinv s0 rs h0).coh

/-- C02 at handler level, both directions: after any history, a LOOKUP of a valid name through a live directory
    handle is answered NFS3_OK exactly when the backend's Lstat finds the path — no cache content (stale positive
    entry, stale negative entry, expired or not) can make it answer otherwise. -/
theorem lookup_ok_iff_backend_has_it (s0 : St) (rs : List Req) (h0 : CInv s0) (c : Ctx) (args : Bytes) (hd : Nat)
    (r1 name r2 : Bytes) (n : Node) (hfh : decFh' (runReqs s0 rs) args = some (hd, r1))
    (hname : decStr (runReqs s0 rs) r1 = some (name, r2)) (hv : validateFilename name = 0)
    (hn : nodeOf (runReqs s0 rs) hd = some n) (hdir : n.attrs.kind = .dir) :
    (∃ s' fh fa da, procLookup (runReqs s0 rs) c args = (s', .res ⟨0, .lookupOk fh (some fa) da⟩)) ↔
    (∃ i, Fs.lstat (runReqs s0 rs).fs (fsPath (joinName n.path name)) = .ok i) :=
  procLookup_iff_backend (runReqs_cinv s0 rs h0).coh c args hd r1 name r2 n hfh hname hv hn hdir

/-- the modifying procedures one by one (the statement the property names: MKDIR, RENAME, RMDIR staleness) -/
theorem mkdir_keeps_cinv (s : St) (c : Ctx) (a : Bytes) (h : CInv s) : CInv (procMkdir s c a).1 := cinv_blocks.procMkdir_keeps s c a h
theorem rename_keeps_cinv (s : St) (c : Ctx) (a : Bytes) (h : CInv s) : CInv (procRename s c a).1 := cinv_blocks.procRename_keeps s c a h
theorem rmdir_keeps_cinv (s : St) (c : Ctx) (a : Bytes) (h : CInv s) : CInv (procRmdir s c a).1 := cinv_blocks.procRmdir_keeps s c a h
theorem remove_keeps_cinv (s : St) (c : Ctx) (a : Bytes) (h : CInv s) : CInv (procRemove s c a).1 := cinv_blocks.procRemove_keeps s c a h
theorem create_keeps_cinv (s : St) (c : Ctx) (a : Bytes) (h : CInv s) : CInv (procCreate s c a).1 := cinv_blocks.procCreate_keeps s c a h
theorem symlink_keeps_cinv (s : St) (c : Ctx) (a : Bytes) (h : CInv s) : CInv (procSymlink s c a).1 := cinv_blocks.procSymlink_keeps s c a h
theorem write_keeps_cinv (s : St) (c : Ctx) (a : Bytes) (h : CInv s) : CInv (procWrite s c a).1 := cinv_blocks.procWrite_keeps s c a h
theorem setattr_keeps_cinv (s : St) (c : Ctx) (a : Bytes) (h : CInv s) : CInv (procSetattr s c a).1 := cinv_blocks.procSetattr_keeps s c a h

/-! ### "A failed request leaves the tree unchanged" — for every argument byte string, in every state satisfying
    the invariant (hence after every history): a CREATE, MKDIR, SYMLINK, REMOVE, RMDIR or RENAME that is answered
    with a non-zero status has not changed the backend. (The handlers fetch attributes after their backend call;
    those fetches cannot fail, because the call does not change what Lstat shows at the directory.) -/
theorem failed_create_leaves_tree (s s' : St) (c : Ctx) (a : Bytes) (st : Nat) (b : Rfc.Body) (h : CInv s)
    (heq : procCreate s c a = (s', .res ⟨st, b⟩)) (hst : st ≠ 0) : s'.fs = s.fs := (procCreate_creation h heq).failed_fs hst

theorem failed_mkdir_leaves_tree (s s' : St) (c : Ctx) (a : Bytes) (st : Nat) (b : Rfc.Body) (h : CInv s)
    (heq : procMkdir s c a = (s', .res ⟨st, b⟩)) (hst : st ≠ 0) : s'.fs = s.fs := (procMkdir_creation h heq).failed_fs hst

theorem failed_symlink_leaves_tree (s s' : St) (c : Ctx) (a : Bytes) (st : Nat) (b : Rfc.Body) (h : CInv s)
    (heq : procSymlink s c a = (s', .res ⟨st, b⟩)) (hst : st ≠ 0) : s'.fs = s.fs := (procSymlink_creation h heq).failed_fs hst

theorem failed_remove_leaves_tree (s s' : St) (c : Ctx) (a : Bytes) (st : Nat) (b : Rfc.Body) (h : CInv s)
    (heq : procRemove s c a = (s', .res ⟨st, b⟩)) (hst : st ≠ 0) : s'.fs = s.fs := procRemove_failed s s' c a st b h.wf heq hst
theorem failed_rmdir_leaves_tree (s s' : St) (c : Ctx) (a : Bytes) (st : Nat) (b : Rfc.Body) (h : CInv s)
    (heq : procRmdir s c a = (s', .res ⟨st, b⟩)) (hst : st ≠ 0) : s'.fs = s.fs := procRmdir_failed s s' c a st b h.wf heq hst
theorem failed_rename_leaves_tree (s s' : St) (c : Ctx) (a : Bytes) (st : Nat) (b : Rfc.Body) (h : CInv s)
    (heq : procRename s c a = (s', .res ⟨st, b⟩)) (hst : st ≠ 0) : s'.fs = s.fs := procRename_failed s s' c a st b h.wf heq hst

/-! ### the directory-listing cache: the server's own mutations are never hidden

`CInv` also says the directory cache has unique keys, so an invalidation really removes the entry. After an
NFS3_OK MKDIR / SYMLINK / CREATE (of a new name) / REMOVE / RMDIR in a directory, or RENAME between two, the cache
holds no listing of the parent(s); `Props.C26.entries_are_the_backend_directory` then says the next READDIR or
READDIRPLUS of that directory is read from the backend. (What is *not* proved is that a listing which stays cached
equals the backend's: DESIGN §11.7.) -/

theorem mkdir_drops_parent_listing (s0 : St) (rs : List Req) (h0 : CInv s0) (s' : St) (c : Ctx) (args : Bytes) (fh : Nat)
    (fa : Rfc.Fattr) (w : Rfc.Wcc) (h : procMkdir (runReqs s0 rs) c args = (s', CreatedOk fh fa w)) :
    ∃ hd r1 n, decFh' (runReqs s0 rs) args = some (hd, r1) ∧ nodeOf (runReqs s0 rs) hd = some n ∧ DcCold s' n.path :=
  (procMkdir_creation (runReqs_cinv s0 rs h0) h).dcCold

theorem symlink_drops_parent_listing (s0 : St) (rs : List Req) (h0 : CInv s0) (s' : St) (c : Ctx) (args : Bytes) (fh : Nat)
    (fa : Rfc.Fattr) (w : Rfc.Wcc) (h : procSymlink (runReqs s0 rs) c args = (s', CreatedOk fh fa w)) :
    ∃ hd r1 n, decFh' (runReqs s0 rs) args = some (hd, r1) ∧ nodeOf (runReqs s0 rs) hd = some n ∧ DcCold s' n.path :=
  (procSymlink_creation (runReqs_cinv s0 rs h0) h).dcCold

theorem create_drops_parent_listing (s0 : St) (rs : List Req) (h0 : CInv s0) (s' : St) (c : Ctx) (args : Bytes) (fh : Nat)
    (fa : Rfc.Fattr) (w : Rfc.Wcc) (h : procCreate (runReqs s0 rs) c args = (s', CreatedOk fh fa w)) :
    ∃ hd r1 name r2 n, decFh' (runReqs s0 rs) args = some (hd, r1) ∧ decStr (runReqs s0 rs) r1 = some (name, r2) ∧
      nodeOf (runReqs s0 rs) hd = some n ∧
      ((∃ err, Fs.lstat (runReqs s0 rs).fs (fsPath (joinName n.path name)) = .error err) → DcCold s' n.path) :=
  let ⟨hd, r1, name, r2, n, hfh, hname, hn, _, hc⟩ := (procCreate_creation (runReqs_cinv s0 rs h0) h).ok
  ⟨hd, r1, name, r2, n, hfh, hname, hn, hc⟩

theorem remove_drops_parent_listing (s0 : St) (rs : List Req) (h0 : CInv s0) (s' : St) (c : Ctx) (args : Bytes) (w : Rfc.Wcc)
    (h : procRemove (runReqs s0 rs) c args = (s', .res ⟨0, .wcc w⟩)) :
    ∃ hd r1 n, decFh' (runReqs s0 rs) args = some (hd, r1) ∧ nodeOf (runReqs s0 rs) hd = some n ∧ DcCold s' n.path :=
  procRemove_dcCold _ s' c args w (runReqs_cinv s0 rs h0) h

theorem rmdir_drops_parent_listing (s0 : St) (rs : List Req) (h0 : CInv s0) (s' : St) (c : Ctx) (args : Bytes) (w : Rfc.Wcc)
    (h : procRmdir (runReqs s0 rs) c args = (s', .res ⟨0, .wcc w⟩)) :
    ∃ hd r1 n, decFh' (runReqs s0 rs) args = some (hd, r1) ∧ nodeOf (runReqs s0 rs) hd = some n ∧ DcCold s' n.path :=
  procRmdir_dcCold _ s' c args w (runReqs_cinv s0 rs h0) h

theorem rename_drops_both_parent_listings (s0 : St) (rs : List Req) (h0 : CInv s0) (s' : St) (c : Ctx) (args : Bytes)
    (w1 w2 : Rfc.Wcc) (h : procRename (runReqs s0 rs) c args = (s', .res ⟨0, .wcc2 w1 w2⟩)) :
    ∃ h1 r1 n1 r2 h2 r3 d1 d2, decFh' (runReqs s0 rs) args = some (h1, r1) ∧ decStr (runReqs s0 rs) r1 = some (n1, r2) ∧
      decFh' (runReqs s0 rs) r2 = some (h2, r3) ∧ nodeOf (runReqs s0 rs) h1 = some d1 ∧ nodeOf (runReqs s0 rs) h2 = some d2 ∧
      DcCold s' d1.path ∧ DcCold s' d2.path :=
  procRename_dcCold _ s' c args w1 w2 (runReqs_cinv s0 rs h0) h

/-- the listing read while the cache is cold is the backend's (any state satisfying the invariant) -/
theorem cold_listing_is_the_backend (s : St) (now : Nat) (d : Node) (nodes : List Node) (hI : CInv s) (hcold : DcCold s d.path)
    (hd : CleanPath d.path) (e : Fs.Entry) (hwalk : Fs.walk s.fs (fsPath d.path) = .ok e) (hk : e.kind = .dir)
    (h : (readDir s now d).2 = .ok nodes) :
    nodes.map (·.path) =
      ((((Fs.sortByName (Fs.children s.fs (fsPath d.path))).map (·.1)).filter (listable d.path)).map (joinName d.path)) :=
  readDir_lists_backend s now d nodes hI hcold hd e hwalk hk h

/-! ### the directory-listing cache, for every request and every history

`DcSup s`: every listing in the directory cache names every object the backend has directly below the listing's
key. It holds for a new server (no entries) and every request keeps it: READDIR stores what the backend lists under
the key it read; CREATE / MKDIR / SYMLINK add one name and drop the listing of its directory; RENAME adds names only
at or below the destination and drops every listing there and the destination parent's; every other procedure
creates nothing. -/

theorem new_server_dcSup (s : St) (hdc : ∀ c, s.dc = some c → c.entries = [] ∧ 0 < c.cap) : DcSup s :=
  dcSup_of_empty fun c hc => (hdc c hc).1

theorem handle_keeps_dcSup (s : St) (c : Ctx) (prog vers proc : Nat) (args : Bytes) (h : CInv s) (hS : DcSup s) :
    DcSup (handle s c prog vers proc args).1 := handle_dcSup s c prog vers proc args h hS

theorem history_keeps_dcSup (s : St) (rs : List Req) (h : CInv s) (hS : DcSup s) : DcSup (runReqs s rs) :=
  runReqs_dcSup s rs h hS

/-- after any history, whatever the cache configuration: if the directory cache holds a listing for a key, then
    every object the backend currently has directly below that key is named in it -/
theorem dircache_never_hides_a_name (s0 : St) (rs : List Req) (h0 : CInv s0) (hS0 : DcSup s0)
    (c : Lru.Cache (List Bytes)) (hc : (runReqs s0 rs).dc = some c) (e : Lru.Entry (List Bytes)) (he : e ∈ c.entries)
    (names : List Bytes) (hv : e.val = some names) (x : Bytes)
    (hx : existsAt (runReqs s0 rs).fs (fsPath e.key ++ [x]) = true) : x ∈ names :=
  ((runReqs_dcSup s0 rs h0 hS0 c hc e he).2 names hv).2 x hx

/-- C02, cache transparency of directory listings (completeness): after any history, whether the listing comes
    from the directory cache or from the backend, the nodes READDIR / READDIRPLUS work from include every object that
    exists directly below the directory and whose name the listing loop accepts — a mutation the server completed
    (a CREATE, MKDIR, SYMLINK, or a RENAME into the directory) is never hidden by a cached listing -/
theorem listing_misses_nothing (s0 : St) (rs : List Req) (h0 : CInv s0) (hS0 : DcSup s0) (now : Nat) (d : Node)
    (nodes : List Node) (hd : CleanPath d.path) (h : (readDir (runReqs s0 rs) now d).2 = .ok nodes) (x : Bytes)
    (hl : listable d.path x = true) (i : Fs.Info) (hx : Fs.lstat (runReqs s0 rs).fs (fsPath d.path ++ [x]) = .ok i) :
    joinName d.path x ∈ nodes.map (·.path) :=
  readDir_complete _ now d nodes (runReqs_cinv s0 rs h0) (runReqs_dcSup s0 rs h0 hS0) hd h x hl (existsAt_of_lstat hx)

/-- C02, cache transparency of directory listings, full statement: after any history of requests on a server whose
    directory cache started empty — whatever its TTL, capacity and max-dir-size, whether the listing is answered
    from the cache or read from the backend — the node list of a READDIR / READDIRPLUS is the backend's directory in
    name order, restricted to the names the listing loop accepts. Same right-hand side as `cold_listing_is_the_backend`,
    without the hypothesis that the cache is cold. -/
theorem listing_is_the_backend_after_any_history (s0 : St) (rs : List Req) (h0 : CInv s0) (hS0 : DcSup s0) (now : Nat)
    (d : Node) (nodes : List Node) (hd : CleanPath d.path) (h : (readDir (runReqs s0 rs) now d).2 = .ok nodes) :
    nodes.map (·.path) =
      ((((Fs.sortByName (Fs.children (runReqs s0 rs).fs (fsPath d.path))).map (·.1)).filter (listable d.path)).map
        (joinName d.path)) :=
  readDir_is_backend _ now d nodes (runReqs_cinv s0 rs h0) (runReqs_dcSup s0 rs h0 hS0) hd h

/-- C02, cache transparency of directory listings (soundness): every node is a name the listing loop accepts,
    directly below the directory, carrying what the backend's Lstat says about it at that moment — a REMOVE, RMDIR or
    RENAME away is never hidden either -/
theorem listing_invents_nothing (s0 : St) (rs : List Req) (h0 : CInv s0) (now : Nat) (d : Node) (nodes : List Node)
    (h : (readDir (runReqs s0 rs) now d).2 = .ok nodes) (nd : Node) (hnd : nd ∈ nodes) :
    MatchesLstat (runReqs s0 rs).fs nd.path nd.attrs ∧ ∃ x, listable d.path x = true ∧ nd.path = joinName d.path x := by
  refine ⟨(readDir_sound rfl (runReqs_cinv s0 rs h0).coh).2 nodes h nd hnd, ?_⟩
  obtain ⟨x, _, hl, hp⟩ := readDir_paths _ now d nodes h nd hnd
  exact ⟨x, hl, hp⟩

/-- non-vacuity: the premises of `new_server_cinv` are met by a concrete server state -/
def demoState : St :=
  { fs := Fs.empty 1000, hs := Handles.init 0, nodes := [],
    ac := { entries := [], cap := 10, ttl := 5, negTtl := 5, enableNeg := true, hitAtEq := false },
    dc := none, excl := [],
    cfg := { transfer := 65536, readOnly := false, maxFileSize := 0, squash := .none, maxStr := 8192, fhMax := 64,
             defaultMaxHandles := 100000, evictDivisor := 10, dcMaxDirSize := 10000, maxRecord := 1048576, writeVerf := [] } }
example : CInv demoState := new_server_cinv demoState rfl (by decide) 0 rfl (by decide) (Fs.wf_empty 1000)
  (by intro c hc; simp [demoState] at hc)

/-- non-vacuity of `new_server_dcSup`: a server state with a directory cache -/
def demoStateDc : St :=
  { demoState with dc := some { entries := [], cap := 4, ttl := 5, negTtl := 0, enableNeg := false, hitAtEq := true } }
theorem demoStateDc_ok : CInv demoStateDc ∧ DcSup demoStateDc :=
  have hdc : ∀ c, demoStateDc.dc = some c → c.entries = [] ∧ 0 < c.cap := by
    intro c hc; simp only [demoStateDc, Option.some.injEq] at hc; rw [← hc]; exact ⟨rfl, by decide⟩
  ⟨new_server_cinv demoStateDc rfl (by decide) 0 rfl (by decide) (Fs.wf_empty 1000) hdc, new_server_dcSup demoStateDc hdc⟩

/-- the invariant is not trivially true: a listing that lacks an existing child violates it (this is the state a
    forgotten `dirCache.Invalidate` produces) -/
example : ¬ DcSupD ((Fs.mkdir (Fs.empty 1000) [[97]] 0o755).toOption.getD (Fs.empty 1000))
    (some { entries := [{ key := [47], val := some [], expireAt := 10 }], cap := 4, ttl := 5, negTtl := 0,
            enableNeg := false, hitAtEq := true }) := by
  intro h
  have := ((h _ rfl _ (List.mem_singleton.mpr rfl)).2 [] rfl).2 [97] (by decide)
  simp at this

/-- … while the same cache content is fine once the listing names the child -/
example : DcSupD ((Fs.mkdir (Fs.empty 1000) [[97]] 0o755).toOption.getD (Fs.empty 1000))
    (some { entries := [{ key := [47], val := some [[97]], expireAt := 10 }], cap := 4, ttl := 5, negTtl := 0,
            enableNeg := false, hitAtEq := true }) := by
  intro c hc e he
  simp only [Option.some.injEq] at hc
  rw [← hc] at he
  simp only [List.mem_singleton] at he
  subst he
  refine ⟨.root, ?_⟩
  intro names hv
  simp only [Option.some.injEq] at hv
  subst hv
  refine ⟨by simp [Fs.Increasing], ?_⟩
  intro x hx
  have hroot : fsPath [47] = [] := fsPath_root
  rw [hroot] at hx
  simp only [List.nil_append] at hx
  have : (Fs.mkdir (Fs.empty 1000) [[97]] 0o755).toOption.getD (Fs.empty 1000) =
      { ents := [([[97]], { kind := .dir, perm := 0o755, uid := 0, gid := 0, data := [], ino := 2 }),
                 ([], { kind := .dir, perm := 0o755, uid := 0, gid := 0, data := [], ino := 1 })], nextIno := 3, maxSize := 1000 } := by
    rfl
  rw [this] at hx
  unfold existsAt Fs.get at hx
  simp only [List.find?_cons, List.find?_nil] at hx
  cases hb : (([[97]] : Fs.Path) == [x])
  · rw [hb] at hx; simp at hx
  · have := eq_of_beq hb
    simp only [List.cons.injEq, and_true] at this
    simp [← this]

end Props.C02
