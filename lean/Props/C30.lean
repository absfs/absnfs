/-
  C30 — The TLS listener enforces the configured security floor (PARTIAL: crypto/tls is trusted).
-/
import Absnfs.Tls
import Gen.Facts
open Absnfs.Tls

namespace Props.C30

def facts : Facts :=
  { floor := Gen.tlsValidateFloor, pinsUnsetMin := Gen.tlsPinsUnsetMin, cloneSharesCert := Gen.tlsCloneSharesCert }

theorem gen_facts : Gen.tlsValidateFloor = 0x0303 ∧ Gen.tlsPinsUnsetMin = true ∧ Gen.tlsCloneSharesCert = true := by
  decide

/-- Floor: for every configuration Validate accepts — including MinVersion left unset and any MaxVersion —
    and whatever crypto/tls's own default minimum is, no version below TLS 1.2 is admitted. -/
theorem never_below_tls12 (goMin : Nat) (c : Cfg) (v : Nat) (hen : c.enabled = true)
    (hv : validate facts c = true) (ha : admitsVersion facts goMin c v = true) : tls12 ≤ v := by
  have hf : facts.floor = tls12 := by decide
  have hp : facts.pinsUnsetMin = true := by decide
  have hmin : tls12 ≤ effectiveMin facts goMin c := by
    simp [validate, hen, hf] at hv
    simp only [effectiveMin, hp, if_true]
    split <;> omega
  simp only [admitsVersion, Bool.and_eq_true, decide_eq_true_eq] at ha
  omega

/-- Without the pin (what the unrepaired code did) the floor rests on crypto/tls's default: a configuration
    {MinVersion: 0, MaxVersion: TLS 1.1} passes Validate and admits TLS 1.0 when that default is 1.0. -/
theorem unpinned_counterexample :
    let f : Facts := { floor := 0x0303, pinsUnsetMin := false, cloneSharesCert := true }
    let c : Cfg := { enabled := true, minV := 0, maxV := tls11, clientAuth := 0, caSet := false, filesExist := true }
    validate f c = true ∧ admitsVersion f tls10 c tls10 = true := by decide

/-- When client certificates are required and verified, a handshake completes only for a client that
    presents a certificate whose chain verifies (against the configured CA). -/
theorem require_and_verify (c : Cfg) (presents chainOk : Bool) (h : c.clientAuth = 4) :
    acceptsClient c presents chainOk = (presents && chainOk) := by
  simp [acceptsClient, h]

theorem require_and_verify_uses_configured_ca (c : Cfg) (h : c.clientAuth = 4) (hca : c.caSet = true) :
    verifiesAgainstConfiguredCA c = true ∧ requiresVerifiedChain c = true := by
  simp [verifiesAgainstConfiguredCA, requiresVerifiedChain, h, hca]

/-- Rotation: ReloadCertificates on the TLS settings returned by GetExportOptions (a clone of the policy's
    TLSConfig, itself the one the listener was built from) changes what the listener presents. -/
theorem rotation_reaches_listener (cs : Cells) (gen : Nat) :
    let r := cloneCell facts cs cs.listener
    presented (reload r.1 r.2 gen) = gen := by
  have hs : facts.cloneSharesCert = true := by decide
  simp [cloneCell, hs, presented, reload]

/-- With private cells per clone (the unrepaired code) the listener keeps presenting the old certificate. -/
theorem private_cell_counterexample (cs : Cells) (gen : Nat) (hn : cs.nextCell ≠ cs.listener) :
    let f : Facts := { floor := 0x0303, pinsUnsetMin := true, cloneSharesCert := false }
    let r := cloneCell f cs cs.listener
    presented (reload r.1 r.2 gen) = presented cs := by
  simp [cloneCell, presented, reload, Ne.symm hn]

example : validate facts { enabled := true, minV := tls12, maxV := tls13, clientAuth := 4, caSet := true, filesExist := true } = true := by
  decide
example : validate facts { enabled := true, minV := tls11, maxV := tls13, clientAuth := 0, caSet := false, filesExist := true } = false := by
  decide

/-- regenerated from the source on every run: the client-CA pool is built from an empty pool plus the configured CAFile -/
theorem gen_client_ca_pool : Gen.clientCAPoolStartsEmpty = true := by decide

/-- every listener start builds its tls.Config — client-CA pool included — from the configured files -/
theorem gen_listen_builds_config : Gen.listenBuildsTLSConfigAfresh = true := by decide

end Props.C30
