/-
  C12 — ACCESS decisions follow UNIX permission rules and never over-grant.
  All statements are for every mode, identity, auxiliary-gid list and 32-bit request word.
-/
import Absnfs.Access
import Gen.Facts
import Absnfs.Auth
open Absnfs

namespace Props.C12

/-- The granted word decodes to exactly the per-bit decision (and carries no other bits). -/
theorem granted_exact (perm : Nat) (d r : Bool) (mask : Nat) :
    AccessBits.ofNat (accessWire perm d r mask) = grant (Rwx.ofNat perm) d r (AccessBits.ofNat mask) ∧
    accessWire perm d r mask < 64 :=
  ⟨AccessBits.ofNat_toNat _, AccessBits.toNat_lt _⟩

/-- Granted ⊆ requested, bit by bit. -/
theorem granted_subset (p : Rwx) (d r : Bool) (q : AccessBits) :
    let g := grant p d r q
    (g.read → q.read) ∧ (g.lookup → q.lookup) ∧ (g.modify → q.modify) ∧
    (g.extend → q.extend) ∧ (g.delete → q.delete) ∧ (g.execute → q.execute) := by
  simp only [grant, Bool.and_eq_true]
  exact ⟨fun h => h.1, fun h => h.1.1, fun h => h.1.2, fun h => h.1.2, fun h => h.1.1.2, fun h => h.1⟩

/-- Exactness per bit: each bit is granted iff it was requested and the class permits it. -/
theorem granted_iff (p : Rwx) (d r : Bool) (q : AccessBits) :
    let g := grant p d r q
    (g.read = (q.read && p.r)) ∧ (g.execute = (q.execute && p.x)) ∧
    (g.lookup = (q.lookup && d && p.x)) ∧
    (g.modify = (!r && q.modify && p.w)) ∧ (g.extend = (!r && q.extend && p.w)) ∧
    (g.delete = (!r && q.delete && d && p.w)) :=
  ⟨rfl, rfl, rfl, rfl, rfl, rfl⟩

/-- LOOKUP and DELETE only on directories. -/
theorem lookup_delete_only_on_dirs (p : Rwx) (r : Bool) (q : AccessBits) :
    (grant p false r q).lookup = false ∧ (grant p false r q).delete = false := by
  simp [grant]

/-- Never MODIFY, EXTEND or DELETE on a read-only export. -/
theorem readonly_never_writes (p : Rwx) (d : Bool) (q : AccessBits) :
    (grant p d true q).modify = false ∧ (grant p d true q).extend = false ∧
    (grant p d true q).delete = false := by
  simp [grant]

/-- The same, on the wire word, for every 32-bit mask and every mode / identity. -/
theorem readonly_wire (mode : Nat) (d : Bool) (eu eg : Nat) (aux : List Nat) (fu fg mask : Nat) :
    let w := accessReply mode d true eu eg aux fu fg mask
    w.testBit 2 = false ∧ w.testBit 3 = false ∧ w.testBit 4 = false := by
  have h := (granted_exact (selectPerm mode eu eg aux fu fg) d true mask).1
  have hm := readonly_never_writes (Rwx.ofNat (selectPerm mode eu eg aux fu fg)) d (AccessBits.ofNat mask)
  rw [← h] at hm
  simpa [AccessBits.ofNat, accessReply] using hm

/-- Root gets every permission of the class-independent kind. -/
theorem root_all (mode eg : Nat) (aux : List Nat) (fu fg : Nat) :
    selectPerm mode 0 eg aux fu fg = 7 := by simp [selectPerm]

/-- Class precedence: the owner's bits apply to the owner even when group/other bits are wider. -/
theorem owner_bits (mode eu eg : Nat) (aux : List Nat) (fg : Nat) (h : eu ≠ 0) :
    selectPerm mode eu eg aux eu fg = (mode >>> 6) &&& 7 := by
  simp [selectPerm, h, selectClass, classShift]

theorem group_bits (mode eu eg : Nat) (aux : List Nat) (fu fg : Nat) (h : eu ≠ 0) (hu : eu ≠ fu)
    (hg : eg = fg ∨ fg ∈ aux) :
    selectPerm mode eu eg aux fu fg = (mode >>> 3) &&& 7 := by
  simp only [selectPerm, h, if_false, selectClass, hu]
  rcases hg with hg | hg
  · simp [hg, classShift]
  · by_cases h2 : eg = fg <;> simp [h2, hg, classShift]

theorem other_bits (mode eu eg : Nat) (aux : List Nat) (fu fg : Nat) (h : eu ≠ 0) (hu : eu ≠ fu)
    (hg : eg ≠ fg) (ha : fg ∉ aux) :
    selectPerm mode eu eg aux fu fg = mode &&& 7 := by
  simp [selectPerm, h, selectClass, hu, hg, ha, classShift]

/-- The selected class bits are always a 3-bit value. -/
theorem perm_lt_8 (mode eu eg : Nat) (aux : List Nat) (fu fg : Nat) :
    selectPerm mode eu eg aux fu fg < 8 := by
  unfold selectPerm
  split
  · decide
  · exact Nat.lt_of_le_of_lt Nat.and_le_right (by decide)

/-- Bits of the request word above the six ACCESS3 bits never influence the decision. -/
theorem high_bits_ignored (perm : Nat) (d r : Bool) (mask : Nat) :
    accessWire perm d r mask = accessWire perm d r (mask % 64) := by
  have h (i : Nat) (hi : i < 6) : (mask % 64).testBit i = mask.testBit i := by
    simpa [hi] using Nat.testBit_mod_two_pow mask 6 i
  simp only [accessWire, AccessBits.ofNat, h 0 (by decide), h 1 (by decide), h 2 (by decide),
    h 3 (by decide), h 4 (by decide), h 5 (by decide)]

/-! Non-vacuity / sanity on concrete values. -/
example : accessReply 0o750 true false 1000 100 [] 1000 100 0x3f = 0x3f := by decide
example : accessReply 0o750 false false 1001 100 [] 1000 100 0x3f = 0x21 := by decide
example : accessReply 0o750 false false 1001 101 [100] 1000 100 0x3f = 0x21 := by decide
example : accessReply 0o757 true false 1000 100 [] 1000 100 0x3f = 0x3f := by decide
example : accessReply 0o057 true false 1000 100 [] 1000 100 0x3f = 0 := by decide
example : accessReply 0o777 true true 0 0 [] 5 5 0xffffffff = 0x23 := by decide

/-! ### the identity the rules are applied to is the squashed one (C10 ∘ C12; the driver's `accessq`) -/

/-- on an `all`-squashing export every AUTH_SYS caller — uid 0 and members of the file's group through an auxiliary
    gid included — is judged by the "other" bits of an object that nobody (65534) neither owns nor shares a group with -/
theorem all_squash_judged_as_other (mode : Nat) (c : Identity) (fu fg : Nat) (hu : fu ≠ nobody) (hg : fg ≠ nobody) :
    selectPerm mode (squash .all c).uid (squash .all c).gid (squash .all c).aux fu fg = mode &&& 7 := by
  refine other_bits mode nobody nobody _ fu fg (by decide) (Ne.symm hu) (Ne.symm hg) fun h => ?_
  obtain ⟨_, _, e⟩ := List.mem_map.mp h
  exact hg e.symm

/-- on a `root`-squashing export uid 0 has no override and gid 0 (primary or auxiliary) gives no group class -/
theorem root_squash_no_override (mode : Nat) (c : Identity) (fu fg : Nat) (h0 : c.uid = 0) (hu : fu ≠ nobody)
    (hg : fg ≠ nobody) (ha : ∀ g ∈ c.aux, g = 0 ∨ g ≠ fg) :
    selectPerm mode (squash .root c).uid (squash .root c).gid (squash .root c).aux fu fg = mode &&& 7 := by
  simp only [squash, h0, if_true]
  refine other_bits mode nobody nobody _ fu fg (by decide) (Ne.symm hu) (Ne.symm hg) fun h => ?_
  obtain ⟨g, hgm, e⟩ := List.mem_map.mp h
  split at e
  · exact hg e.symm
  · rcases ha g hgm with hz | hne
    · contradiction
    · exact hne e

/-- regenerated from the source on every run: the connection loop builds the authentication context inside its request loop, from that call's credential: the identity ACCESS judges is the call's own -/
theorem gen_conn_loop_identity_per_call : Gen.connLoopAuthPerCall = true := by decide

/-- the identity ACCESS judges is the validated, squashed one for every credential flavour: HandleCall copies it into
    the context unconditionally (AUTH_NONE callers are nobody, not uid 0) -/
theorem gen_identity_applied : Gen.handleCallAppliesIdentity = true := by decide

end Props.C12
