/-
  C20 — Worker pool: bounded concurrency and every accepted task resolved exactly once.
  "Every interleaving" = every path of the transition system `Pool.Step` (any number of tasks, any pool size).
  PARTIAL in one respect: Go's real `select` and goroutine scheduling are represented by the nondeterminism
  of `Step`; fairness is not assumed — the resolution theorem is "the pool can always move until every
  accepted task is resolved, and it cannot move forever".
-/
import Absnfs.PoolInv
import Gen.Facts
open Absnfs Absnfs.Pool

namespace Props.C20

/-- Regenerated: Stop closes the result channels of tasks still queued after the workers returned, and
    Resize never sends a nil "result" to a submitter (it closes the channel instead). -/
theorem gen_stop_drains : Gen.poolStopDrains = true := by decide
theorem gen_resize_closes : Gen.poolResizeSendsNil = false := by decide

abbrev Step' := Step Gen.poolStopDrains
abbrev Reach' := Reach Gen.poolStopDrains

/-- Tasks never run concurrently beyond the pool size. -/
theorem bounded_concurrency (n : Nat) (s : St) (h : Reach' n s) : (busy s).length ≤ n := by
  have hI := inv_reach n _ s h
  rw [← hI.size]
  exact List.length_filterMap_le _ _

/-- Every execution is of an accepted task, no task is executed twice, and a task is never both executed
    and reported as not executed. -/
theorem executed_at_most_once (n : Nat) (s : St) (h : Reach' n s) :
    s.executed.Nodup ∧ (∀ t ∈ s.executed, t ∈ s.accepted ∧ t ∉ s.told ∧ t ∉ s.queue) := by
  have hI := inv_reach n _ s h
  obtain ⟨_, hnd, hq⟩ := List.nodup_append.mp (hI.perm.nodup_iff.mpr hI.nodup)
  obtain ⟨_, hnd, _⟩ := List.nodup_append.mp hnd
  obtain ⟨hnd, _, het⟩ := List.nodup_append.mp hnd
  exact ⟨hnd, fun t ht => ⟨hI.perm.subset (by simp [ht]), fun h => het t ht t h rfl,
    fun h => hq t h t (by simp [ht]) rfl⟩⟩

/-- a task that was accepted and is neither executed nor reported is still in the queue or on a worker -/
theorem unresolved_is_pending (n : Nat) (s : St) (h : Reach' n s) (t : Nat) (ha : t ∈ s.accepted)
    (he : t ∉ s.executed) (ht : t ∉ s.told) : t ∈ s.queue ∨ t ∈ busy s := by
  simpa [he, ht] using (inv_reach n _ s h).perm.symm.subset ha

/-- Progress: while some accepted task is unresolved the pool itself (no new Submit, no new Stop call) can
    take a step — no submitter can be left waiting in a state where nothing can happen any more. -/
theorem progress (n : Nat) (hn : 0 < n) (s : St) (h : Reach' n s) (t : Nat) (ha : t ∈ s.accepted)
    (he : t ∉ s.executed) (ht : t ∉ s.told) : ∃ s', Internal Gen.poolStopDrains s s' := by
  have hI := inv_reach n _ s h
  cases hb : busy s with
  | cons u _ =>
    have hu : u ∈ busy s := hb ▸ List.mem_cons_self ..
    obtain ⟨⟨_, ex⟩, hw, rfl⟩ := List.mem_filterMap.mp hu
    obtain ⟨i, hi⟩ := List.getElem?_of_mem hw
    cases ex with
    | true => exact nomatch hI.exitedIdle _ hw rfl
    | false => exact ⟨_, Step.finish s i u hi, rfl, rfl⟩
  | nil =>
    have hq : t ∈ s.queue := (unresolved_is_pending n s h t ha he ht).resolve_right (hb ▸ List.not_mem_nil)
    obtain ⟨q, rest, hqq⟩ := List.exists_cons_of_ne_nil (List.ne_nil_of_mem hq)
    by_cases hidle : (⟨none, false⟩ : Worker) ∈ s.workers
    · obtain ⟨i, hi⟩ := List.getElem?_of_mem hidle
      exact ⟨_, Step.take s i q rest hi hqq, rfl, rfl⟩
    · -- nobody idle, nobody busy: every worker has exited
      have hall : ∀ w ∈ s.workers, w.exited = true
        | ⟨_, true⟩, _ => rfl
        | ⟨none, false⟩, hw => absurd hw hidle
        | ⟨some u, false⟩, hw => absurd hb (List.ne_nil_of_mem (List.mem_filterMap.mpr ⟨_, hw, rfl⟩))
      obtain ⟨w, hw⟩ := List.exists_mem_of_length_pos (hI.size ▸ hn)
      cases hc : s.closed with
      | false =>
        have hcd : s.ctxDone = true := (hI.exitedWhy ⟨w, hw, hall w hw⟩).resolve_right (by simp [hc])
        exact ⟨_, Step.stopClose s (hI.doneNotRunning hcd) hcd hc, rfl, rfl⟩
      | true =>
        cases hst : s.stopped with
        | false => exact ⟨_, Step.stopDone s hc hst hall, by rw [gen_stop_drains]; exact ⟨rfl, rfl⟩⟩
        | true =>
          -- this case needs Stop to drain the queue (cf. `no_drain_counterexample`)
          rw [(hI.stoppedAll hst).2.2 gen_stop_drains] at hq
          exact nomatch hq

/-- the pool cannot move forever on its own: every internal step strictly decreases this measure
    (a queued task counts 2 because `take` makes it a busy one) -/
def measure (s : St) : Nat :=
  2 * s.queue.length + (busy s).length + (alive s).length +
  (!s.closed).toNat + (!s.stopped).toNat

theorem measure_setWorker {s : St} {i : Nat} {w : Worker} (hi : s.workers[i]? = some w) (w' : Worker)
    (q e : List Nat)
    (hlt : 2 * q.length + (w'.task.isSome.toNat + (!w'.exited).toNat) <
      2 * s.queue.length + (w.task.isSome.toNat + (!w.exited).toNat)) :
    measure (setWorker { s with queue := q, executed := e } i w') < measure s := by
  have hb := countP_set hi w' (·.task.isSome)
  have ha := countP_set hi w' (!·.exited)
  simp only [measure, busy, alive, setWorker, List.length_filterMap_eq_countP, ← List.countP_eq_length_filter]
  omega

theorem internal_decreases (n : Nat) (s s' : St) (hr : Reach' n s) (h : Internal Gen.poolStopDrains s s') :
    measure s' < measure s := by
  obtain ⟨hs, hacc, hrun⟩ := h
  cases hs with
  | submit t _ _ _ _ => simp at hacc
  | take i t rest hi hq => exact measure_setWorker hi _ rest s.executed (by simp [hq]; omega)
  | finish i t hi => exact measure_setWorker hi _ s.queue _ (by simp)
  | exitCtx i hi _ => exact measure_setWorker hi _ s.queue s.executed (by simp)
  | exitClosed i hi _ _ => exact measure_setWorker hi _ s.queue s.executed (by simp)
  | stopBegin hr' => simp [hr'] at hrun
  | stopClose _ _ hc =>
    simp only [measure, busy, alive, hc, Bool.not_false, Bool.not_true, Bool.toNat_true, Bool.toNat_false]
    omega
  | stopDone hc hst _ =>
    rw [gen_stop_drains]
    simp only [if_true, measure, busy, alive, hst, List.length_nil, Bool.not_false, Bool.not_true,
      Bool.toNat_true, Bool.toNat_false]
    omega

/-- When the pool has come to rest (no internal step is possible) every accepted task has been executed
    exactly once with its result delivered, or its submitter has been told it was not executed. -/
theorem at_rest_all_resolved (n : Nat) (hn : 0 < n) (s : St) (h : Reach' n s)
    (hrest : ∀ s', ¬ Internal Gen.poolStopDrains s s') :
    ∀ t ∈ s.accepted, (t ∈ s.executed ∧ t ∉ s.told) ∨ (t ∈ s.told ∧ t ∉ s.executed) := by
  intro t ha
  by_cases he : t ∈ s.executed
  · exact Or.inl ⟨he, ((executed_at_most_once n s h).2 t he).2.1⟩
  · by_cases ht : t ∈ s.told
    · exact Or.inr ⟨ht, he⟩
    · obtain ⟨s', hs'⟩ := progress n hn s h t ha he ht
      exact absurd hs' (hrest s')

/-- KNOWN DEFECT OF THE UNREPAIRED CODE, kept as a theorem: if Stop does not drain, a task accepted just
    before Stop can be left in the closed queue with every worker gone — its submitter waits forever. -/
theorem no_drain_counterexample :
    ∃ s, Reach false 1 s ∧ 1 ∈ s.accepted ∧ 1 ∉ s.executed ∧ 1 ∉ s.told ∧ s.stopped = true ∧
      (∀ w ∈ s.workers, w.exited = true) ∧ s.queue = [1] := by
  have r1 := Reach.step _ _ (.init (n := 1)) (Step.submit (drains := false) _ 1 rfl rfl (by decide) List.not_mem_nil)
  have r2 := Reach.step _ _ r1 (Step.stopBegin _ rfl)
  have r3 := Reach.step _ _ r2 (Step.exitCtx _ 0 rfl rfl)
  have r4 := Reach.step _ _ r3 (Step.stopClose _ rfl rfl rfl)
  have r5 := Reach.step _ _ r4 (Step.stopDone _ rfl rfl (by decide))
  exact ⟨_, r5, by decide, by decide, by decide, rfl, by decide, rfl⟩

/-- regenerated from the source on every run: Resize records the new size before it starts the workers again (the model's pool has the new size after a resize) -/
theorem gen_resize_sets_size_first : Gen.resizeSetsSizeBeforeStart = true := by decide

end Props.C20
