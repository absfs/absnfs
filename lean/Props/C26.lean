/-
  C26 — Directory listings page completely and respect the client's size limit.
  The statements are about the entry loops of the Lean server model (`fillDir`, `fillDirPlus`), which
  `procReaddir` / `procReaddirplus` call with the directory's entries, the client's cookie and
  `limit = count` (READDIR) or `maxcount` (READDIRPLUS) — for every directory, every name length, every cookie
  and every limit ≥ 104. Limits below 104 bytes (that cannot hold an empty listing) are raised by the code to
  the size of one maximal entry, so such a reply may exceed the client's number: known finding
  C26/reply-exceeds-tiny-count (the repository's tests expect it).
  The statements reach the handlers and the wire without a cold-cache hypothesis: under the directory-cache
  invariant `DcSup` (Props.C02, kept by every request) every NFS3_OK READDIR page, from any cookie, is the slice of
  the backend's listing that starts at the cookie (`readdir_page_is_a_slice_of_the_backend`), a walk that
  follows the cookies through real handler calls has always received a prefix of that listing and, once a reply says
  eof, all of it exactly once (`cookie_walk_lists_the_directory`), READDIR and READDIRPLUS replies from cookie 0 with
  eof carry exactly the listing (`readdir_reply_lists_the_directory_warm`, `readdirplus_…_warm`), names strictly
  increasing. The `wd_*` and `sl_*` declarations are kernel-evaluated histories showing that the premises are met by a
  real three-page walk over a warm cache, and why the cache invariant is a superset rather than an equality.
-/
import Absnfs.ServerWalk
import Props.C02
import Gen.Facts
open Absnfs Absnfs.Server

namespace Props.C26

theorem gen_accounting : (Gen.readdirAccountsEntries && Gen.readdirplusAccountsEntries) = true := by decide

/-- the limit the handlers use -/
def effLimit (floor count : Nat) : Nat := if count < dirListHeader + dirListTrailer then floor else count

theorem effLimit_is_count (floor count : Nat) (h : 104 ≤ count) : effLimit floor count = count := by
  unfold effLimit dirListHeader dirListTrailer; split <;> omega

theorem effLimit_holds_empty_listing (count : Nat) : dirListHeader + dirListTrailer ≤ effLimit minReaddirReply count ∧
    dirListHeader + dirListTrailer ≤ effLimit minReaddirplusReply count := by
  unfold effLimit minReaddirplusReply minReaddirReply plusExtra dirListHeader dirListTrailer
  constructor <;> split <;> omega

/-- The handler is this loop with this limit (definitional: the model's procReaddir). -/
example (limit cookie : Nat) (nodes : List Node) : page limit cookie nodes = fillDir limit cookie 0 dirListHeader 0 nodes := rfl

/-- (1) Every READDIR3resok fits: header + entries + trailer ≤ limit, and that sum is the encoded size. -/
theorem readdir_reply_fits (limit cookie : Nat) (nodes : List Node) (hc : cookie ≤ nodes.length)
    (hl : dirListHeader + dirListTrailer ≤ limit) (ents : List Rfc.DirEnt) (lim : Bool)
    (h : page limit cookie nodes = .done ents lim) (a : Rfc.Fattr) (verf : Bytes) (hv : verf.length = 8) :
    (Rfc.encBody (.readdirOk (some a) verf ents (!lim))).length ≤ limit := by
  have := pageOf_size hl ((page_eq ..).symm.trans h)
  rw [readdirOk_length a verf ents (!lim) hv]
  omega

/-- (2) The call fails with NFS3ERR_TOOSMALL exactly when not even the first remaining entry fits. -/
theorem readdir_toosmall_iff (limit cookie : Nat) (nodes : List Node) (hc : cookie ≤ nodes.length)
    (hl : dirListHeader + dirListTrailer ≤ limit) :
    page limit cookie nodes = .tooSmall ↔
      ∃ e es, nodes.drop cookie = e :: es ∧ dirListHeader + entrySize (baseName e.path) + dirListTrailer > limit := by
  rw [page_eq, pageOf_tooSmall_iff]
  exact ⟨fun ⟨_, e, es, hd, hbig⟩ => ⟨e, es, hd, hbig⟩, fun ⟨e, es, hd, hbig⟩ => ⟨rfl, e, es, hd, hbig⟩⟩

/-- (3) Every call that can fit an entry returns at least one: a page without entries is eof on an exhausted
    listing. -/
theorem readdir_progress (limit cookie : Nat) (nodes : List Node) (hc : cookie ≤ nodes.length)
    (hl : dirListHeader + dirListTrailer ≤ limit) (lim : Bool) (h : page limit cookie nodes = .done [] lim) :
    lim = false ∧ nodes.drop cookie = [] := by
  obtain ⟨hents, hall, hcut⟩ := pageOf_done ((page_eq ..).symm.trans h)
  -- the page has as many entries as fit, and that is none
  have hlen := congrArg List.length hents
  rw [List.length_nil, numbered_length, List.length_take] at hlen
  cases lim with
  | true => have := hcut rfl; have := this.2 rfl; omega
  | false => exact ⟨rfl, List.eq_nil_of_length_eq_zero (by have := hall rfl; omega)⟩

/-- (4) Names, fileids and cookies of a page are those of the directory's entries after the cookie, in order. -/
theorem readdir_page_is_prefix (limit cookie : Nat) (nodes : List Node) (hc : cookie ≤ nodes.length)
    (hl : dirListHeader + dirListTrailer ≤ limit) (ents : List Rfc.DirEnt) (lim : Bool)
    (h : page limit cookie nodes = .done ents lim) :
    ∃ k, ents = numbered cookie ((nodes.drop cookie).take k) ∧ (lim = false → k = (nodes.drop cookie).length) := by
  obtain ⟨hents, hall, _⟩ := pageOf_done ((page_eq ..).symm.trans h)
  exact ⟨_, hents, hall⟩

/-- (5) Following the returned cookies lists exactly the directory's entries, each once, ending with eof —
    for every directory and every limit in which each entry fits on its own. -/
theorem readdir_walk_complete (limit : Nat) (nodes : List Node) (hfit : AllFit limit nodes)
    (hl : dirListHeader + dirListTrailer ≤ limit) :
    walkPages limit nodes (nodes.length + 1) 0 = some (numbered 0 nodes) := by
  simpa using walkPages_complete limit nodes hfit (nodes.length + 1) 0 (by omega)

/-- READDIRPLUS: the same three facts for the loop with attributes and handles. -/
theorem readdirplus_reply_fits (limit cookie : Nat) (s : St) (nodes : List Node) (hc : cookie ≤ nodes.length)
    (hl : dirListHeader + dirListTrailer ≤ limit) (s' : St) (ents : List Rfc.DirEntPlus) (lim : Bool)
    (h : fillDirPlus limit cookie s 0 dirListHeader 0 nodes = (s', .done ents lim)) (a : Rfc.Fattr) (verf : Bytes)
    (hv : verf.length = 8) :
    (Rfc.encBody (.readdirplusOk (some a) verf ents (!lim))).length ≤ limit ∧
    ∃ k, ents.map stripPlus = numbered cookie ((nodes.drop cookie).take k) ∧ (lim = false → k = (nodes.drop cookie).length) ∧
      (lim = true → k > 0) := by
  have hsz := pageOf_size hl (pagePlus_eq h)
  obtain ⟨hents, hall, hcut⟩ := pageOf_done (pagePlus_eq h)
  refine ⟨?_, _, hents, hall, fun hl' => (hcut hl').2 rfl⟩
  rw [readdirplusOk_length a verf ents (!lim) hv (fillDirPlus_some h), plusSize_eq]
  rw [List.length_map] at hsz
  omega

theorem readdirplus_toosmall (limit cookie : Nat) (s : St) (nodes : List Node) (hc : cookie ≤ nodes.length)
    (hl : dirListHeader + dirListTrailer ≤ limit) (s' : St)
    (h : fillDirPlus limit cookie s 0 dirListHeader 0 nodes = (s', .tooSmall)) :
    ∃ e es, nodes.drop cookie = e :: es ∧
      dirListHeader + entrySize (baseName e.path) + plusExtra + dirListTrailer > limit :=
  (pageOf_tooSmall_iff.mp (pagePlus_eq h)).2

/-- (5') READDIRPLUS: following the returned cookies lists exactly the directory's entries, each once, in
    order, each with attributes and a handle, ending with eof — for every directory, every limit in which each
    entry fits on its own, and whatever the server state is at each page (handles are allocated on the way). -/
theorem readdirplus_walk_complete (limit : Nat) (nodes : List Node) (hfit : AllFitPlus limit nodes)
    (hl : dirListHeader + dirListTrailer ≤ limit) (s : St) :
    ∃ ents, walkPagesPlus limit nodes (nodes.length + 1) s 0 = some ents ∧
      ents.map stripPlus = numbered 0 nodes ∧ ∀ e ∈ ents, e.attr.isSome ∧ e.fh.isSome := by
  simpa using walkPagesPlus_complete limit nodes hfit (nodes.length + 1) s 0 (by omega)

/-- non-vacuity: a two-entry directory, tight limit: one entry per page, then eof -/
def nodeA : Node := ⟨[47, 97], ⟨.file, 420, 0, 1, 0, 0⟩⟩
def nodeB : Node := ⟨[47, 98, 98], ⟨.dir, 493, 0, 2, 0, 0⟩⟩
example : walkPages 132 [nodeA, nodeB] 3 0 = some (numbered 0 [nodeA, nodeB]) := by decide
example : (match page 131 0 [nodeA, nodeB] with | .tooSmall => true | _ => false) = true := by decide

/-- where the entries come from, after any history, whenever the directory cache cannot answer (none configured,
    or no entry for the directory — e.g. right after any of the server's own mutations in it, Props.C02
    `*_drops_parent_listing`): for a handle whose path is a directory of the backend, the list the paging loops walk
    is the backend's directory — every child whose name the listing loop accepts (not '.', '..' or empty, no '/' or
    '\\'), in name order, each as often as the backend lists it, nothing else. Together with `readdir_walk_complete` /
    `readdirplus_walk_complete`: following the cookies returns exactly the directory's entries. -/
theorem entries_are_the_backend_directory (s0 : St) (rs : List Req) (h0 : CInv s0) (now : Nat) (d : Node) (nodes : List Node)
    (hcold : DcCold (runReqs s0 rs) d.path) (hd : CleanPath d.path) (e : Fs.Entry)
    (hwalk : Fs.walk (runReqs s0 rs).fs (fsPath d.path) = .ok e) (hk : e.kind = .dir)
    (h : (readDir (runReqs s0 rs) now d).2 = .ok nodes) :
    nodes.map (·.path) =
      ((((Fs.sortByName (Fs.children (runReqs s0 rs).fs (fsPath d.path))).map (·.1)).filter (listable d.path)).map
        (joinName d.path)) :=
  readDir_lists_backend _ now d nodes (runReqs_cinv s0 rs h0) hcold hd e hwalk hk h

/-- without a directory cache the hypothesis holds for every directory -/
theorem no_dircache_is_cold (s : St) (p : Bytes) (h : s.dc = none) : DcCold s p := by
  intro c hc; rw [h] at hc; simp at hc

/-- one READDIR call seen from the wire, after any history: on a directory the cache has no listing of (none
    configured, or just dropped by one of the server's own mutations — Props.C02 `*_drops_parent_listing`), a call from
    cookie 0 answered NFS3_OK with eof carries exactly the names of the backend's directory that the listing loop
    accepts, in name order: nothing missing, nothing invented, nothing twice that the backend does not list twice. -/
theorem readdir_reply_lists_the_directory (s0 : St) (rs : List Req) (h0 : CInv s0) (s' : St) (c : Ctx) (args : Bytes)
    (a : Option Rfc.Fattr) (verf : Bytes) (ents : List Rfc.DirEnt) (hd : Nat) (r1 r2 : Bytes) (n : Node)
    (hfh : decFh' (runReqs s0 rs) args = some (hd, r1)) (hck : decU64 r1 = some (0, r2))
    (hn : nodeOf (runReqs s0 rs) hd = some n) (hcold : DcCold (runReqs s0 rs) n.path) (e : Fs.Entry)
    (hwalk : Fs.walk (runReqs s0 rs).fs (fsPath n.path) = .ok e) (hk : e.kind = .dir)
    (h : procReaddir (runReqs s0 rs) c args = (s', .res ⟨0, .readdirOk a verf ents true⟩)) :
    ents.map (·.name) =
      ((Fs.sortByName (Fs.children (runReqs s0 rs).fs (fsPath n.path))).map (·.1)).filter (listable n.path) := by
  obtain ⟨_, _, hall⟩ :=
    procReaddir_page_entries _ s' c args a verf ents true (runReqs_cinv s0 rs h0) hd 0 r1 r2 n hcold.supAt hfh hck hn h
  rw [hall rfl, List.drop_zero, expectedEnts_names]
  rfl

/-- the same call whatever the directory cache holds — any state reached by any history from a server whose directory
    cache started empty, any TTL / capacity / max-dir-size: the hypothesis "the cache is cold" of
    `readdir_reply_lists_the_directory` is not needed. -/
theorem readdir_reply_lists_the_directory_warm (s0 : St) (rs : List Req) (h0 : CInv s0) (hS0 : DcSup s0) (s' : St) (c : Ctx)
    (args : Bytes) (a : Option Rfc.Fattr) (verf : Bytes) (ents : List Rfc.DirEnt) (hd : Nat) (r1 r2 : Bytes) (n : Node)
    (hfh : decFh' (runReqs s0 rs) args = some (hd, r1)) (hck : decU64 r1 = some (0, r2))
    (hn : nodeOf (runReqs s0 rs) hd = some n)
    (h : procReaddir (runReqs s0 rs) c args = (s', .res ⟨0, .readdirOk a verf ents true⟩)) :
    ents.map (·.name) =
      ((Fs.sortByName (Fs.children (runReqs s0 rs).fs (fsPath n.path))).map (·.1)).filter (listable n.path) :=
  procReaddir_whole _ s' c args a verf ents (runReqs_cinv s0 rs h0) (runReqs_dcSup s0 rs h0 hS0) hd r1 r2 n hfh hck hn h

/-- `readdir_reply_lists_the_directory_warm` for READDIRPLUS -/
theorem readdirplus_reply_lists_the_directory_warm (s0 : St) (rs : List Req) (h0 : CInv s0) (hS0 : DcSup s0) (s' : St)
    (c : Ctx) (args : Bytes) (a : Option Rfc.Fattr) (verf : Bytes) (ents : List Rfc.DirEntPlus) (hd : Nat) (r1 r2 : Bytes)
    (n : Node) (hfh : decFh' (runReqs s0 rs) args = some (hd, r1)) (hck : decU64 r1 = some (0, r2))
    (hn : nodeOf (runReqs s0 rs) hd = some n)
    (h : procReaddirplus (runReqs s0 rs) c args = (s', .res ⟨0, .readdirplusOk a verf ents true⟩)) :
    ents.map (·.name) =
      ((Fs.sortByName (Fs.children (runReqs s0 rs).fs (fsPath n.path))).map (·.1)).filter (listable n.path) :=
  procReaddirplus_whole _ s' c args a verf ents (runReqs_cinv s0 rs h0) (runReqs_dcSup s0 rs h0 hS0) hd r1 r2 n hfh hck hn h

/-- hence no name appears twice in such a reply, and the names are strictly increasing in byte order -/
theorem readdir_reply_names_increasing (s0 : St) (rs : List Req) (h0 : CInv s0) (hS0 : DcSup s0) (s' : St) (c : Ctx)
    (args : Bytes) (a : Option Rfc.Fattr) (verf : Bytes) (ents : List Rfc.DirEnt) (hd : Nat) (r1 r2 : Bytes) (n : Node)
    (hfh : decFh' (runReqs s0 rs) args = some (hd, r1)) (hck : decU64 r1 = some (0, r2))
    (hn : nodeOf (runReqs s0 rs) hd = some n)
    (h : procReaddir (runReqs s0 rs) c args = (s', .res ⟨0, .readdirOk a verf ents true⟩)) :
    Fs.Increasing (ents.map (·.name)) ∧ (ents.map (·.name)).Nodup := by
  rw [readdir_reply_lists_the_directory_warm s0 rs h0 hS0 s' c args a verf ents hd r1 r2 n hfh hck hn h]
  have hinc := (Fs.sorted_children_increasing (runReqs_cinv s0 rs h0).wf (fsPath n.path)).filter (listable n.path)
  exact ⟨hinc, hinc.nodup⟩

/-- C26 end to end, over real handler calls: after any history, a client that follows the cookies through one
    directory handle — any count per call, any caller, any time between the calls, whatever the directory cache does in
    between (fill, expire, evict, be absent) — has at every point received a prefix of the backend's listing of the
    directory (the listable names in name order), as long as the cookie it has reached; when the last reply says eof
    it has received the whole listing: every entry exactly once. (`Walk` chains NFS3_OK READDIR replies, each call
    starting at the cookie the previous one ended on; READDIR itself changes nothing in the backend.) -/
theorem cookie_walk_lists_the_directory (s0 : St) (rs : List Req) (h0 : CInv s0) (hS0 : DcSup s0) (hd : Nat) (n : Node)
    (hn : nodeOf (runReqs s0 rs) hd = some n) {s : St} {ck : Nat} {acc : List Bytes} {fin : Bool}
    (w : Walk (runReqs s0 rs) hd s ck acc fin) :
    acc = (listing (runReqs s0 rs).fs n.path).take ck ∧ ck = acc.length ∧
      (fin = true → acc = listing (runReqs s0 rs).fs n.path) := by
  obtain ⟨_, _, _, _, h1, h2, h3⟩ :=
    walk_lists_the_directory (runReqs s0 rs) hd n (runReqs_cinv s0 rs h0) (runReqs_dcSup s0 rs h0 hS0) hn w
  exact ⟨h1, h2, h3⟩

/-- every single page, any cookie: a slice of the backend's listing starting at the cookie; with eof, the rest of it -/
theorem readdir_page_is_a_slice_of_the_backend (s0 : St) (rs : List Req) (h0 : CInv s0) (hS0 : DcSup s0) (s' : St) (c : Ctx)
    (args : Bytes) (a : Option Rfc.Fattr) (verf : Bytes) (ents : List Rfc.DirEnt) (eof : Bool) (hd ck : Nat) (r1 r2 : Bytes)
    (n : Node) (hfh : decFh' (runReqs s0 rs) args = some (hd, r1)) (hck : decU64 r1 = some (ck, r2))
    (hn : nodeOf (runReqs s0 rs) hd = some n)
    (h : procReaddir (runReqs s0 rs) c args = (s', .res ⟨0, .readdirOk a verf ents eof⟩)) :
    ∃ k, ents.map (·.name) = ((listing (runReqs s0 rs).fs n.path).drop ck).take k ∧
      (eof = true → ents.map (·.name) = (listing (runReqs s0 rs).fs n.path).drop ck) :=
  procReaddir_page _ s' c args a verf ents eof (runReqs_cinv s0 rs h0) (runReqs_dcSup s0 rs h0 hS0) hd ck r1 r2 n hfh hck hn h

/-- every single page, completely: the entries of an NFS3_OK page are determined by the backend alone — for the
    listing's names from position `ck` on: that name, fileid = fnv64 of the entry's path, cookies ck+1, ck+2, …
    (`expectedEnts`) -/
theorem readdir_page_entries_exact (s0 : St) (rs : List Req) (h0 : CInv s0) (hS0 : DcSup s0) (s' : St) (c : Ctx)
    (args : Bytes) (a : Option Rfc.Fattr) (verf : Bytes) (ents : List Rfc.DirEnt) (eof : Bool) (hd ck : Nat) (r1 r2 : Bytes)
    (n : Node) (hfh : decFh' (runReqs s0 rs) args = some (hd, r1)) (hck : decU64 r1 = some (ck, r2))
    (hn : nodeOf (runReqs s0 rs) hd = some n)
    (h : procReaddir (runReqs s0 rs) c args = (s', .res ⟨0, .readdirOk a verf ents eof⟩)) :
    ∃ k, ents = expectedEnts n.path ck (((listing (runReqs s0 rs).fs n.path).drop ck).take k) ∧
      (eof = true → ents = expectedEnts n.path ck ((listing (runReqs s0 rs).fs n.path).drop ck)) :=
  procReaddir_page_entries _ s' c args a verf ents eof (runReqs_cinv s0 rs h0) hd ck r1 r2 n
    ((runReqs_dcSup s0 rs h0 hS0).at _) hfh hck hn h

/-- the same for READDIRPLUS pages (name, fileid and cookie of every entry, any cookie; the attributes and handles of
    the entries are the subject of Props.C04 / C05) -/
theorem readdirplus_page_entries_exact (s0 : St) (rs : List Req) (h0 : CInv s0) (hS0 : DcSup s0) (s' : St) (c : Ctx)
    (args : Bytes) (a : Option Rfc.Fattr) (verf : Bytes) (ents : List Rfc.DirEntPlus) (eof : Bool) (hd ck : Nat) (r1 r2 : Bytes)
    (n : Node) (hfh : decFh' (runReqs s0 rs) args = some (hd, r1)) (hck : decU64 r1 = some (ck, r2))
    (hn : nodeOf (runReqs s0 rs) hd = some n)
    (h : procReaddirplus (runReqs s0 rs) c args = (s', .res ⟨0, .readdirplusOk a verf ents eof⟩)) :
    ∃ k, ents.map stripPlus = expectedEnts n.path ck (((listing (runReqs s0 rs).fs n.path).drop ck).take k) ∧
      (eof = true → ents.map stripPlus = expectedEnts n.path ck ((listing (runReqs s0 rs).fs n.path).drop ck)) := by
  have hI := runReqs_cinv s0 rs h0
  obtain ⟨s1, nodes, k, hrd, hk, hall⟩ := procReaddirplus_ok hfh hck hn h
  rw [readDir_numbered hI ((runReqs_dcSup s0 rs h0 hS0).at _) (hI.node hn) hrd, expectedEnts_drop, Nat.zero_add] at hk hall
  exact ⟨k, by rw [hk, expectedEnts_take], hall⟩

/-- `readdir_reply_lists_the_directory_warm` in membership form: the reply names every object the backend has directly
    below the directory whose name the listing loop accepts. -/
theorem readdir_reply_misses_nothing (s0 : St) (rs : List Req) (h0 : CInv s0) (hS0 : DcSup s0) (s' : St) (c : Ctx)
    (args : Bytes) (a : Option Rfc.Fattr) (verf : Bytes) (ents : List Rfc.DirEnt) (hd : Nat) (r1 r2 : Bytes) (n : Node)
    (hfh : decFh' (runReqs s0 rs) args = some (hd, r1)) (hck : decU64 r1 = some (0, r2))
    (hn : nodeOf (runReqs s0 rs) hd = some n)
    (h : procReaddir (runReqs s0 rs) c args = (s', .res ⟨0, .readdirOk a verf ents true⟩)) (x : Bytes)
    (hl : listable n.path x = true) (i : Fs.Info) (hx : Fs.lstat (runReqs s0 rs).fs (fsPath n.path ++ [x]) = .ok i) :
    x ∈ ents.map (·.name) :=
  procReaddir_whole_complete _ s' c args a verf ents (runReqs_cinv s0 rs h0) (runReqs_dcSup s0 rs h0 hS0) hd r1 r2 n
    hfh hck hn h x hl (existsAt_of_lstat hx)

/-! ### non-vacuity of the walk theorem: a three-page walk over a warm directory cache, evaluated by the kernel -/
def wd_ctx0 : Ctx := { now := 1, uid := 0, gid := 0, aux := [] }
def wd_mntArgs : Bytes := [0,0,0,1, 47, 0,0,0]
def wd_rootFh : Bytes := [0,0,0,8, 0,0,0,0,0,0,0,1]
def wd_sattr0 : Bytes := [0,0,0,0, 0,0,0,0, 0,0,0,0, 0,0,0,0, 0,0,0,0, 0,0,0,0]
def wd_mkdirArgs (c : UInt8) : Bytes := wd_rootFh ++ [0,0,0,1, c, 0,0,0] ++ wd_sattr0
def wd_ckBytes (ck : UInt8) : Bytes := [0,0,0,0,0,0,0,ck]
def wd_tailBytes (cnt : UInt8) : Bytes := [0,0,0,0,0,0,0,0] ++ [0,0,0,cnt]
def wd_readdirArgs (ck cnt : UInt8) : Bytes := wd_rootFh ++ wd_ckBytes ck ++ wd_tailBytes cnt
/-- MNT "/", MKDIR b, a, c in the root, then one READDIR of the whole root: the directory cache now holds the listing -/
def wd_history : List Req := [⟨wd_ctx0, 100005, 3, 1, wd_mntArgs⟩, ⟨wd_ctx0, 100003, 3, 9, wd_mkdirArgs 98⟩, ⟨wd_ctx0, 100003, 3, 9, wd_mkdirArgs 97⟩,
  ⟨wd_ctx0, 100003, 3, 9, wd_mkdirArgs 99⟩, ⟨wd_ctx0, 100003, 3, 16, wd_readdirArgs 0 255⟩]
def wd_sW : St := runReqs Props.C02.demoStateDc wd_history

def wd_getE : Outcome → List Rfc.DirEnt | .res ⟨_, .readdirOk _ _ e _⟩ => e | _ => []
def wd_getEof : Outcome → Bool | .res ⟨_, .readdirOk _ _ _ f⟩ => f | _ => false
def wd_isOk : Outcome → Bool | .res ⟨0, .readdirOk _ _ _ _⟩ => true | _ => false
theorem wd_ok_shape (o : Outcome) (h : wd_isOk o = true) : ∃ a v, o = .res ⟨0, .readdirOk a v (wd_getE o) (wd_getEof o)⟩ := by
  unfold wd_isOk at h
  split at h
  · exact ⟨_, _, rfl⟩
  · cases h

/-- three calls with count 140 (room for one entry each), each from the cookie the previous one ended on -/
def wd_p1 := procReaddir wd_sW wd_ctx0 (wd_readdirArgs 0 140)
def wd_p2 := procReaddir wd_p1.1 wd_ctx0 (wd_readdirArgs 1 140)
def wd_p3 := procReaddir wd_p2.1 wd_ctx0 (wd_readdirArgs 2 140)

/-- what `Walk.page` asks of a call in state `s` from cookie byte `b`: the handle decodes, the call is answered
    NFS3_OK; and what it returned -/
abbrev wd_pageIs (s : St) (b : UInt8) (names : List Bytes) (eof : Bool) : Prop :=
  decFh' s (wd_readdirArgs b 140) = some (1, wd_ckBytes b ++ wd_tailBytes 140) ∧
    (wd_isOk (procReaddir s wd_ctx0 (wd_readdirArgs b 140)).2,
      (wd_getE (procReaddir s wd_ctx0 (wd_readdirArgs b 140)).2).map (·.name),
      wd_getEof (procReaddir s wd_ctx0 (wd_readdirArgs b 140)).2) = (true, names, eof)

/-- everything that is evaluated of this history, in one statement: inside one declaration the kernel computes `wd_sW`
    (most of the work) and the states after it once, across declarations it would compute them again for each -/
theorem wd_evaluated :
    (wd_sW.dc.map fun c => c.entries.map fun e => (e.key, e.val)) = some [([47], some [[97], [98], [99]])] ∧
      (nodeOf wd_sW 1).isSome = true ∧
      wd_pageIs wd_sW 0 [[97]] false ∧ wd_pageIs wd_p1.1 1 [[98]] false ∧ wd_pageIs wd_p2.1 2 [[99]] true := by
  decide +kernel

/-- the cache is warm when the walk starts: the listing of "/" is in it -/
theorem wd_warm : (wd_sW.dc.map fun c => c.entries.map fun e => (e.key, e.val)) = some [([47], some [[97], [98], [99]])] :=
  wd_evaluated.1

theorem wd_page1 : wd_pageIs wd_sW 0 [[97]] false := wd_evaluated.2.2.1
theorem wd_page2 : wd_pageIs wd_p1.1 1 [[98]] false := wd_evaluated.2.2.2.1
theorem wd_page3 : wd_pageIs wd_p2.1 2 [[99]] true := wd_evaluated.2.2.2.2

theorem wd_next {s : St} {ck : Nat} {acc names : List Bytes} {fin eof : Bool} (w : Walk wd_sW 1 s ck acc fin) {b : UInt8}
    (hck : decU64 (wd_ckBytes b ++ wd_tailBytes 140) = some (ck, wd_tailBytes 140)) (h : wd_pageIs s b names eof) :
    Walk wd_sW 1 (procReaddir s wd_ctx0 (wd_readdirArgs b 140)).1 (ck + names.length) (acc ++ names) eof := by
  obtain ⟨hfh, hp⟩ := h
  obtain ⟨hok, hp⟩ := Prod.mk.inj hp
  obtain ⟨hnames, heof⟩ := Prod.mk.inj hp
  obtain ⟨a, v, hshape⟩ := wd_ok_shape _ hok
  have := Walk.page wd_ctx0 _ _ _ a v _ _ w hfh hck (Prod.ext rfl hshape)
  rwa [← List.length_map (f := (·.name)), hnames, heof] at this

/-- the walk exists: its premises (handle and cookie decode in each state reached, each call is answered NFS3_OK) hold -/
theorem wd_the_walk : Walk wd_sW 1 wd_p3.1 3 [[97], [98], [99]] true :=
  wd_next (wd_next (wd_next .start (by decide +kernel) wd_page1) (by decide +kernel) wd_page2) (by decide +kernel) wd_page3

/-- … and so the theorem applies: what the three replies carried is the backend's listing of the root, obtained from the
    theorem (not by evaluating the listing) -/
example : ∃ n, nodeOf wd_sW 1 = some n ∧ [[97], [98], [99]] = listing wd_sW.fs n.path := by
  obtain ⟨n, hn⟩ := Option.isSome_iff_exists.mp wd_evaluated.2.1
  refine ⟨n, hn, ?_⟩
  have := cookie_walk_lists_the_directory Props.C02.demoStateDc wd_history Props.C02.demoStateDc_ok.1 Props.C02.demoStateDc_ok.2 1 n hn wd_the_walk
  exact this.2.2 rfl

/-! ### why the invariant is a superset and not an equality (DESIGN §11.7), as a kernel-evaluated history

MNT "/"; MKDIR k (handle 2); MKDIR o; MKDIR o/x; RMDIR k; SYMLINK l -> "o"; RENAME l -> k; READDIR through the old
handle 2 of /k. READDIR decides "is a directory" from the handle's snapshot and the backend's Readdir follows the final
link, so the listing of /o is stored under the key /k. Afterwards the cache holds `/k ↦ [x]` although the backend has
nothing below /k: "cached listing = backend listing of the key" is false in a reachable state. The reply was still the
backend's (empty) listing, because every cached name is looked up again — the statement the theorems above make. -/
def sl_fhOf (h : UInt8) : Bytes := [0,0,0,8, 0,0,0,0,0,0,0,h]
def sl_nm (c : UInt8) : Bytes := [0,0,0,1, c, 0,0,0]
def sl_history : List Req := [⟨wd_ctx0, 100005, 3, 1, wd_mntArgs⟩,
  ⟨wd_ctx0, 100003, 3, 9, sl_fhOf 1 ++ sl_nm 107 ++ wd_sattr0⟩,                  -- MKDIR /k      (handle 2)
  ⟨wd_ctx0, 100003, 3, 9, sl_fhOf 1 ++ sl_nm 111 ++ wd_sattr0⟩,                  -- MKDIR /o      (handle 3)
  ⟨wd_ctx0, 100003, 3, 9, sl_fhOf 3 ++ sl_nm 120 ++ wd_sattr0⟩,                  -- MKDIR /o/x
  ⟨wd_ctx0, 100003, 3, 13, sl_fhOf 1 ++ sl_nm 107⟩,                           -- RMDIR /k
  ⟨wd_ctx0, 100003, 3, 10, sl_fhOf 1 ++ sl_nm 108 ++ wd_sattr0 ++ sl_nm 111⟩,       -- SYMLINK /l -> "o"
  ⟨wd_ctx0, 100003, 3, 14, sl_fhOf 1 ++ sl_nm 108 ++ sl_fhOf 1 ++ sl_nm 107⟩]       -- RENAME /l -> /k
def sl_sK : St := runReqs Props.C02.demoStateDc sl_history
def sl_reply := procReaddir sl_sK wd_ctx0 (sl_fhOf 2 ++ wd_ckBytes 0 ++ wd_tailBytes 255)

/-- both evaluated facts in one statement, so that the kernel computes `sl_sK` once (see `wd_evaluated`) -/
theorem sl_evaluated :
    ((wd_isOk sl_reply.2, (wd_getE sl_reply.2).map (·.name), wd_getEof sl_reply.2) = (true, [], true) ∧
      listing sl_sK.fs [47, 107] = []) ∧
    (sl_reply.1.dc.map fun c => c.entries.map fun e => (e.key, e.val)) = some [([47, 107], some [[120]])] ∧
      listing sl_reply.1.fs [47, 107] = [] := by decide +kernel

/-- the READDIR through the stale handle is answered NFS3_OK with an empty listing and eof — the backend's listing of /k -/
theorem sl_reply_is_backend : (wd_isOk sl_reply.2, (wd_getE sl_reply.2).map (·.name), wd_getEof sl_reply.2) = (true, [], true) ∧
    listing sl_sK.fs [47, 107] = [] := sl_evaluated.1

/-- that READDIR leaves the listing of /o in the cache under the key /k: a strict superset of what the backend has
    below /k -/
theorem sl_cache_holds_a_strict_superset :
    (sl_reply.1.dc.map fun c => c.entries.map fun e => (e.key, e.val)) = some [([47, 107], some [[120]])] ∧
    listing sl_reply.1.fs [47, 107] = [] := sl_evaluated.2

/-- the state is reachable and satisfies both invariants (so the theorems of this file and of C02 apply to it) -/
theorem sl_invariants_hold : CInv sl_reply.1 ∧ DcSup sl_reply.1 := by
  have hI := runReqs_cinv Props.C02.demoStateDc sl_history Props.C02.demoStateDc_ok.1
  have hS := runReqs_dcSup Props.C02.demoStateDc sl_history Props.C02.demoStateDc_ok.1 Props.C02.demoStateDc_ok.2
  exact ⟨procReaddir_cinv sl_sK wd_ctx0 _ hI, procReaddir_dcSup sl_sK wd_ctx0 _ hI hS⟩


end Props.C26
