/-
  C19 — Traffic refused to one client does not consume capacity shared with others.
-/
import Absnfs.Bucket
import Gen.Facts
open Absnfs Absnfs.Bucket

namespace Props.C19

/-- Regenerated: AllowRequest consults the client's own (per-IP, per-connection) buckets before the
    global one. -/
theorem gen_order : Gen.allowRequestGlobalFirst = false := by decide

abbrev allowRequest' := RL.allowRequest Gen.allowRequestGlobalFirst

/-- A request refused by its own per-IP or per-connection limit leaves the global bucket untouched. -/
theorem refused_by_own_limit_keeps_global (r : RL) (ip conn : String) (now : Nat)
    (h : (r.perIP.allow ip now).2 = false ∨
         (r.perConnEnabled = true ∧ (r.perConn.allow conn now).2 = false)) :
    (allowRequest' r ip conn now).1.global = r.global ∧ (allowRequest' r ip conn now).2 = false := by
  have hown : ((r.perIP.allow ip now).2 && (!r.perConnEnabled || (r.perConn.allow conn now).2)) = false := by
    rcases h with h | ⟨hc, h⟩
    · rw [h, Bool.false_and]
    · rw [hc, h]; exact Bool.and_false _
  rw [allowRequest', gen_order]
  constructor
  · rw [allowRequest_ownFirst_global, hown]; rfl
  · rw [allowRequest_snd, hown, Bool.and_false]

/-- The global bucket is charged exactly by the requests that passed the client's own limits. -/
theorem global_charged_only_by_passing (r : RL) (ip conn : String) (now : Nat) :
    (allowRequest' r ip conn now).1.global = r.global ∨
    ((r.perIP.allow ip now).2 = true ∧ (allowRequest' r ip conn now).1.global = (r.global.allow now).1) := by
  rw [allowRequest', gen_order, allowRequest_ownFirst_global]
  split
  · exact Or.inr ⟨(Bool.and_eq_true_iff.mp ‹_›).1, rfl⟩
  · exact Or.inl rfl

/-- However many requests an abusive client sends beyond its own limit, the global bucket does not move:
    along any sequence of requests each of which is refused by the sender's own per-IP limit in the state
    it arrives in, the global bucket stays exactly as it was. -/
inductive RefusedRun : RL → List (String × String × Nat) → RL → Prop
  | nil (r : RL) : RefusedRun r [] r
  | cons (r : RL) (ip conn : String) (now : Nat) (rest : List (String × String × Nat)) (r' : RL)
      (hown : (r.perIP.allow ip now).2 = false)
      (hrest : RefusedRun (allowRequest' r ip conn now).1 rest r') :
      RefusedRun r ((ip, conn, now) :: rest) r'

theorem abusive_stream_keeps_global (r r' : RL) (reqs : List (String × String × Nat))
    (h : RefusedRun r reqs r') : r'.global = r.global := by
  induction h with
  | nil r => rfl
  | cons r ip conn now rest r' hown _ ih =>
    rw [ih]
    exact (refused_by_own_limit_keeps_global r ip conn now (Or.inl hown)).1

/-- With the order in which the global bucket is consulted first the statement is false: one request
    refused by the per-IP limit still takes a global token. (Witness kept for the record; it is what the
    unrepaired code did.) -/
theorem global_first_counterexample :
    let r : RL := { global := TB.new 10 10 0, perIP := Keyed.new 1 1 1000000000000 0,
                    perConn := Keyed.new 1 1 1000000000000 0, perConnEnabled := false, perOp := [] }
    let r1 := (r.allowRequest true "a" "c" 0).1
    (r1.allowRequest true "a" "c" 0).2 = false ∧
    (r1.allowRequest true "a" "c" 0).1.global.tokens = 8 := by
  decide +kernel

/-- regenerated from the source on every run: the connection loop takes the client address for per-IP limiting from the peer address as reported (IP.String()) -/
theorem gen_conn_loop_client_ip : Gen.connLoopClientIPFromPeer = true := by decide

end Props.C19
