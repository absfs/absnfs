/-
  C24 — Runtime reconfiguration keeps the server serviceable and is all-or-nothing.
-/
import Absnfs.Config
import Gen.Facts
open Absnfs Absnfs.Config

namespace Props.C24

/-- Regenerated from the source: the behaviour flags and the defaults tables. -/
def beh : Behaviour :=
  { tuningDefaults := Gen.cfgTuningUpdateAppliesDefaults, validatesFirst := Gen.cfgUpdateValidatesFirst,
    policyDefaultsRL := Gen.cfgPolicyDefaultsRateLimitConfig }

/-- defaults in table order; MaxWorkers' default is NumCPU × 4 (`cpu` = runtime.NumCPU()) -/
def dNum (cpu : Nat) : List Int :=
  Gen.cfgDefaults.map fun kv => if kv.1 = "MaxWorkers" then (4 * cpu : Int) else (kv.2 : Int)
def dTmo : List Int := Gen.cfgTimeoutDefaults.map fun kv => (kv.2 : Int)

theorem gen_behaviour :
    (Gen.cfgTuningUpdateAppliesDefaults && Gen.cfgUpdateValidatesFirst && Gen.cfgPolicyDefaultsRateLimitConfig &&
     Gen.cfgNewUsesSharedDefaults && Gen.cfgNilTimeoutsSameDefaults && Gen.cfgMaxWorkersIsNumCPUx4) = true := by
  decide

/-- the documented defaults, and every default is positive -/
theorem gen_defaults_table :
    Gen.cfgDefaults = [("TransferSize", 65536), ("AttrCacheTimeout", 5000000000), ("AttrCacheSize", 10000),
      ("NegativeCacheTimeout", 5000000000), ("DirCacheTimeout", 10000000000), ("DirCacheMaxEntries", 1000),
      ("DirCacheMaxDirSize", 10000), ("MaxWorkers", 0), ("MaxConnections", 100), ("IdleTimeout", 300000000000),
      ("SendBufferSize", 262144), ("ReceiveBufferSize", 262144)] ∧
    Gen.cfgTimeoutDefaults.length = 9 ∧ (Gen.cfgTimeoutDefaults.all fun kv => decide (0 < kv.2)) = true :=
  ⟨rfl, rfl, rfl⟩

theorem dNum_pos (cpu : Nat) (hc : 0 < cpu) : AllPos (dNum cpu) := by
  simp [AllPos, dNum, gen_defaults_table.1]
  omega

theorem dTmo_pos : AllPos dTmo := by
  intro x hx
  obtain ⟨kv, hkv, rfl⟩ := List.mem_map.mp hx
  exact_mod_cast of_decide_eq_true (List.all_eq_true.mp gen_defaults_table.2.2 kv hkv)

def Tuning.Shaped (t : Tuning) : Prop := t.num.length = 12 ∧ ∀ v, t.timeouts = some v → v.length = 9
def Op.Shaped : Op → Prop
  | .tuning t => Tuning.Shaped t
  | .policy _ => True
  | .exportUpd u => Tuning.Shaped u.tuning

/-- One step keeps the configuration serviceable, whatever values the update carries (zero, negative, nil),
    as long as it has the right number of fields. -/
theorem step_serviceable (cpu : Nat) (hc : 0 < cpu) (c : Cfg) (op : Op) (hop : Op.Shaped op)
    (h : Serviceable 12 9 c) : Serviceable 12 9 (step beh (dNum cpu) dTmo c op) := by
  have hb : beh.tuningDefaults = true := by decide
  have tuned (t : Tuning) (ht : Tuning.Shaped t) :
      ServiceableT 12 9 (updateTuning beh (dNum cpu) dTmo c t).tuning := by
    simp only [updateTuning, hb, if_true]
    exact defaultTuning_serviceable (n := 12) (m := 9) (dNum_pos cpu hc) rfl dTmo_pos rfl t ht.1 ht.2
  cases op with
  | tuning t => exact tuned t hop
  | policy p =>
    simp only [step, Serviceable]
    cases hp : updatePolicy beh c p with
    | none => exact h
    | some c' => rw [Option.getD_some, updatePolicy_tuning hp]; exact h
  | exportUpd u =>
    simp only [step, Serviceable]
    rcases updateExport_tuning beh (dNum cpu) dTmo c u with he | he <;> rw [he]
    · exact h
    · refine tuned _ ⟨hop.1, fun v hv => ?_⟩
      unfold exportTuning at hv
      cases hu : u.tuning.timeouts with
      | none =>
        obtain ⟨-, -, w, hw, hwl, -⟩ := h
        rw [hu, hw] at hv
        cases hv; exact hwl
      | some w => rw [hu] at hv; cases hv; exact hop.2 _ hu

/-- After any sequence of runtime updates the server still has a positive transfer size, positive cache
    sizes / worker count / connection limit and positive timeouts. -/
theorem serviceable_forever (cpu : Nat) (hc : 0 < cpu) (c : Cfg) (ops : List Op) (hops : ∀ op ∈ ops, Op.Shaped op)
    (h : Serviceable 12 9 c) : Serviceable 12 9 (ops.foldl (step beh (dNum cpu) dTmo) c) :=
  List.foldlRecOn ops _ h fun c h op hop => step_serviceable cpu hc c op (hops op hop) h

/-- Zero or negative fields take exactly the construction default; positive ones are kept. -/
theorem unset_fields_take_defaults (cpu : Nat) (t : Tuning) (hs : Tuning.Shaped t) (i : Nat) (hi : i < 12) :
    (defaultTuning (dNum cpu) dTmo t).num[i]! = if t.num[i]! ≤ 0 then (dNum cpu)[i]! else t.num[i]! :=
  have hl : (dNum cpu).length = 12 := rfl
  applyNum_get (hl.trans hs.1.symm) (hl ▸ hi)

/-- A rejected UpdateExportOptions (Squash change) leaves the entire configuration unchanged. -/
theorem rejected_update_changes_nothing (cpu : Nat) (c : Cfg) (u : ExportUpdate)
    (hbad : u.policy.squash ≠ [] ∧ u.policy.squash ≠ c.policy.squash) :
    updateExport beh (dNum cpu) dTmo c u = (c, true) := by
  have hb : beh.validatesFirst = true := by decide
  simp [updateExport, hb, hbad]

theorem rejected_policy_changes_nothing (c : Cfg) (p : Policy) (h : c.policy.squash ≠ p.squash) :
    updatePolicy beh c p = none := by simp [updatePolicy, h]

/-- With validation after the tuning half (what the unrepaired code did) a rejected update is half applied. -/
theorem late_validation_counterexample :
    let b : Behaviour := { tuningDefaults := true, validatesFirst := false, policyDefaultsRL := true }
    let c : Cfg := { tuning := ⟨[65536], some [30], []⟩, policy := ⟨false, false, [], 0, false, none, 0⟩ }
    let u : ExportUpdate := { tuning := ⟨[1234], none, []⟩, policy := ⟨false, false, [97], 0, false, none, 0⟩ }
    (updateExport b [65536] [30] c u).2 = true ∧ (updateExport b [65536] [30] c u).1 ≠ c := by
  decide

/-! non-vacuity -/
example : ServiceableT 12 9 (defaultTuning (dNum 4) dTmo ⟨[0, 0, 0, 0, 0, 0, 0, 0, 0, 0, 0, 0], none, []⟩) :=
  defaultTuning_serviceable (n := 12) (m := 9) (dNum_pos 4 (by decide)) rfl dTmo_pos rfl _ rfl (by simp)

end Props.C24
