/-
  C17 — Connections are bounded, accounted, reaped when idle, and fully shut down.
  PARTIAL: the accounting core is a theorem over every interleaving of the atomic critical sections; real
  goroutine exit, TCP and the 5-second Stop timeout are exercised by the harness, not modelled.
  KNOWN FINDING (C17/close-with-inflight-handler): a handler goroutine spawned by HandleCall that is still
  inside the backend when Close returns repopulates the handle table and the attribute cache afterwards.
-/
import Absnfs.Conns
import Gen.Facts
open Absnfs.Conns

namespace Props.C17

/-- Regenerated: registerConnection checks the limit and registers in one critical section; the decrement
    sits inside the Once body together with the removal from the map; Close and Unexport release all handles
    and clear both caches. -/
theorem gen_structure :
    (Gen.connRegisterAtomic && Gen.connDecrementInsideOnce && Gen.closeReleasesAndClears) = true := by decide

/-- Regenerated: the order of the teardown the model's `stop` / `close` steps assume — Stop cancels the context
    first (a connection accepted later finds it cancelled), then closes listeners and connections and waits;
    Close stops the server and the worker pool before it releases handles and clears the caches. -/
theorem gen_teardown_order : (Gen.stopCancelsFirst && Gen.closeStopsBeforeRelease) = true := by decide

/-- connCount always equals the number of registered connections, and never exceeds MaxConnections,
    whatever the interleaving of accepts, connection exits, the idle reaper and closeAll. -/
theorem count_is_number_of_registered (max : Nat) (s : St) (h : Reach max s) :
    s.count = (inMapCount s : Int) ∧ (max > 0 → s.count ≤ max) :=
  ⟨(inv_reach max s h).count, (inv_reach max s h).bound⟩

/-- A connection is uncounted exactly once: after its Once has fired it is out of the map for good, and no
    further unregister call changes the count. -/
theorem uncounted_exactly_once (max : Nat) (s : St) (h : Reach max s) (c : Conn) (hc : c ∈ s.conns)
    (hd : c.onceDone = true) : c.inMap = false := (inv_reach max s h).fired c hc hd

theorem later_unregister_is_noop (s : St) (c : Conn) :
    ({ s with conns := upd s.conns c.id decPending } : St).count = s.count := rfl

/-- When every accepted connection has been unregistered the counter is back to zero. -/
theorem all_gone_count_zero (max : Nat) (s : St) (h : Reach max s) (hall : ∀ c ∈ s.conns, c.inMap = false) :
    s.count = 0 := by
  have : s.conns.filter (·.inMap) = [] := List.filter_eq_nil_iff.mpr fun c hc => by simp [hall c hc]
  rw [(inv_reach max s h).count, inMapCount, this]
  rfl

/-- At the limit a new connection is refused (never registered, never counted). -/
theorem refused_at_limit (max : Nat) (s s' : St) (h : Step max s s') (hfull : max > 0 ∧ s.count ≥ max) :
    s'.count ≤ s.count :=
  h.count_le_of_le hfull.1 hfull.2 (Int.le_refl _)

/-- the accounting steps with a (positive) limit that the operator may change between any two of them -/
inductive StepV : St × Nat → St × Nat → Prop
  | step (m : Nat) (s s' : St) (h : Step m s s') : StepV (s, m) (s', m)
  | setMax (s : St) (m m' : Nat) (hpos : 0 < m') : StepV (s, m) (s, m')

/-- `ReachV hi (s, m)`: reachable with limit changes; `hi` is the largest limit that has been in force -/
inductive ReachV : Nat → St × Nat → Prop
  | init (m : Nat) (hpos : 0 < m) : ReachV m (init, m)
  | step (hi : Nat) (x y : St × Nat) (h : ReachV hi x) (hs : StepV x y) : ReachV (Nat.max hi y.2) y

/-- lowered below the number of open connections, the limit admits nobody: while the count is at or above the limit in
    force, no step makes it grow (the count only falls until it is below the limit again) -/
theorem lowered_limit_admits_nobody (s s' : St) (m m' : Nat) (h : StepV (s, m) (s', m')) (hm : m > 0) (hge : s.count ≥ m) :
    s'.count ≤ s.count := by
  cases h with
  | step _ _ _ hs => exact refused_at_limit m s s' hs ⟨hm, hge⟩
  | setMax _ _ _ _ => exact Int.le_refl _

/-- the count never exceeds the largest limit that has been in force -/
theorem bounded_by_largest_limit (hi : Nat) (x : St × Nat) (h : ReachV hi x) :
    0 < x.2 ∧ x.2 ≤ hi ∧ x.1.count ≤ hi := by
  induction h with
  | init m hpos => exact ⟨hpos, Nat.le_refl _, by simp [init]⟩
  | step hi x y _ hs ih =>
    obtain ⟨hp, hle, hc⟩ := ih
    have h1 : (hi : Int) ≤ Nat.max hi y.2 := Int.ofNat_le.mpr (Nat.le_max_left ..)
    cases hs with
    | step m s s' hstep =>
      exact ⟨hp, Nat.le_max_right ..,
        hstep.count_le_of_le hp (Int.le_trans (Int.ofNat_le.mpr hle) h1) (Int.le_trans hc h1)⟩
    | setMax s m m' hpos => exact ⟨hpos, Nat.le_max_right .., Int.le_trans hc h1⟩

example : ReachV 4 (init, 2) :=
  ReachV.step 4 (init, 4) (init, 2) (.init 4 (by decide)) (.setMax init 4 2 (by decide))

/-- Close ∘ Close = Close on what Close is responsible for (handles released, caches cleared, server stopped):
    the cleared state is a fixed point. -/
structure Resources where
  handles : Nat
  attrEntries : Nat
  dirEntries : Nat
  serving : Bool
  deriving DecidableEq

def closeAll (_ : Resources) : Resources := ⟨0, 0, 0, false⟩

theorem close_idempotent (r : Resources) : closeAll (closeAll r) = closeAll r := rfl

example : Reach 1 { conns := [⟨7, true, false, 0⟩], count := 1, rejected := 0 } :=
  Reach.step _ _ Reach.init (Step.accept init 7 (fun _ h => nomatch h) (Or.inr (by decide)))

/-- regenerated from the source on every run: Listen starts the idle reaper before it chooses between a TLS and a plain listener -/
theorem gen_reaper_for_every_listener : Gen.listenStartsReaperForEveryListener = true := by decide

/-- regenerated from the source on every run: the accept loop counts a connection only after the host filter admitted its peer, and a closing connection is uncounted whatever the logging options -/
theorem gen_accounting_order : (Gen.acceptLoopFiltersBeforeCounting && Gen.unregisterUncountsUnconditionally) = true := by decide

end Props.C17
