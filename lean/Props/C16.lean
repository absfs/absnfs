/-
  C16 — Policy updates are atomic with respect to requests (drain-and-swap).
  "Every interleaving" = every path of `Drain.Step`, any number of requests, updates and connections.
  Not modelled: the Go memory model / data races (the harness runs the real code under -race).
-/
import Absnfs.Drain
import Gen.Facts
open Absnfs.Drain

namespace Props.C16

/-- Regenerated from the source: HandleCall admits with TryRLock and answers JUKEBOX otherwise; the read lock is
    released by the request's goroutine (not by HandleCall on timeout); UpdatePolicyOptions stores the policy
    and replaces the limiter between Lock and Unlock; the connection loop looks the limiter up per request. -/
theorem gen_structure :
    (Gen.drainTryRLock && Gen.drainGoroutineOwnsUnlock && Gen.drainUpdateUnderLock &&
     Gen.connLoopLimiterPerRequest) = true := by decide

abbrev Step' := Step Gen.connLoopLimiterPerRequest
abbrev Reach' := Reach Gen.connLoopLimiterPerRequest

/-- (i) Every backend operation of a request runs while the policy it was admitted under is in force. -/
theorem backend_ops_under_admitted_policy (s : St) (h : Reach' s) :
    ∀ e ∈ s.backendLog, e.2.1 = e.2.2 := (inv_reach _ s h).log

/-- Every request holding the read lock was admitted under the current policy. -/
theorem active_requests_are_current (s : St) (h : Reach' s) :
    ∀ q ∈ s.reqs, q.phase = .active → q.admitted = s.policy := (inv_reach _ s h).current

/-- (ii) When an update returns, no request admitted earlier is still executing. -/
theorem update_returns_after_drain (s : St) (l : Nat) (h : Reach' s) (hu : s.upd = .holding) :
    actives { s with policy := s.pendingPolicy, limiter := l, upd := .idle } = [] :=
  (inv_reach _ s h).holding hu

/-- (iii) A call arriving while an update is waiting or holding is not admitted: the only step that adds a
    request in such a state adds it as refused (retry-later), and only active requests touch the backend. -/
theorem mid_drain_arrival_refused (s s' : St) (h : Step' s s') (hu : s.upd ≠ .idle)
    (q : Req) (hq : q ∈ s'.reqs) (hnew : ∀ x ∈ s.reqs, x.id ≠ q.id) : q.phase = .refused :=
  (h.arrival hq hnew).2.1.trans (if_neg hu)

theorem only_active_requests_reach_backend (s s' : St) (h : Step' s s') (e : Nat × Nat × Nat)
    (he : e ∈ s'.backendLog) (hn : e ∉ s.backendLog) : ∃ q ∈ s.reqs, q.phase = .active ∧ q.id = e.1 := by
  cases h with
  | backend q hq ha =>
    obtain rfl := (List.mem_cons.mp he).resolve_right hn
    exact ⟨q, hq, ha, rfl⟩
  | _ => exact absurd he hn

/-- (iv) The drain makes progress: while the writer waits no new request is admitted (the set of lock holders
    can only shrink), every holder can finish, and the writer proceeds as soon as none is left. -/
theorem drain_does_not_grow (s s' : St) (h : Step' s s') (hu : s.upd = .waiting) :
    (actives s').length ≤ (actives s).length :=
  h.actives_length_le (by rw [hu]; decide)

theorem drain_completes_when_idle (s : St) (hu : s.upd = .waiting) (h0 : actives s = []) :
    ∃ s', Step' s s' ∧ s'.upd = .holding := ⟨_, Step.updAcquire s hu h0, rfl⟩

theorem holder_can_finish (s : St) (q : Req) (hq : q ∈ actives s) : ∃ s', Step' s s' :=
  ⟨_, Step.finish s q (mem_actives.mp hq).1 (mem_actives.mp hq).2⟩

/-- (v) After an update every request — also on a connection opened before it — is rate-limited by the
    limiter then in force. -/
theorem limiter_in_force_is_used (s s' : St) (h : Step' s s') (q : Req) (hq : q ∈ s'.reqs)
    (hnew : ∀ x ∈ s.reqs, x.id ≠ q.id) : q.limiterUsed = s.limiter :=
  (h.arrival hq hnew).2.2 (by decide)

/-- With the limiter captured at connect time (the unrepaired code) a connection opened before an update
    keeps using the old limiter: reachable counterexample. -/
theorem captured_limiter_counterexample :
    ∃ s, Reach false s ∧ ∃ q ∈ s.reqs, q.limiterUsed ≠ s.limiter := by
  have r1 := Reach.step _ _ (.init (perRequest := false)) (Step.openConn _ 1)
  have r2 := Reach.step _ _ r1 (Step.updBegin _ 1 rfl)
  have r3 := Reach.step _ _ r2 (Step.updAcquire _ rfl rfl)
  have r4 := Reach.step _ _ r3 (Step.updEnd _ 7 rfl)
  have r5 := Reach.step _ _ r4 (Step.admitReq _ 5 1 0 rfl (List.mem_cons_self ..) (fun _ h => nomatch h))
  exact ⟨_, r5, _, List.mem_cons_self .., by decide⟩

/-- regenerated from the source on every run: HandleCall validates the caller only after taking the policy read lock -/
theorem gen_validation_under_lock : Gen.handleCallValidatesUnderLock = true := by decide

/-- the installed policy shares no memory with the value the caller passed (AllowedIPs is copied), and a refused
    call releases the read-lock the drain waits for -/
theorem gen_policy_value_copied : (Gen.updatePolicyCopiesAllowedIPs && Gen.handleCallUnlocksOnRefusal) = true := by decide

end Props.C16
