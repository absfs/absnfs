/-
  C09 — Host filtering and the secure-port rule gate every request.
  Address text parsing is Go's (trusted); statements are about parsed addresses.
-/
import Absnfs.Auth
import Gen.Facts
open Absnfs

namespace Props.C09

theorem gen_secure_port : Gen.securePortBound = 1024 := by decide

/-- Both filters call the same membership rule after normalising the client address (regenerated fact:
    each of auth.go:isIPAllowed and Server.isIPAllowed calls normalizeIP on the client and on entries). -/
theorem gen_filters_normalise : (Gen.authFilterNormalises && Gen.serverFilterNormalises) = true := by decide

/-- Membership: admitted by a non-empty list iff some well-formed entry equals the address or is a CIDR
    containing it; malformed entries never match. -/
theorem allowed_iff (ip : IP) (entries : List AllowEntry) :
    ipAllowed (some ip) entries = true ↔
      ∃ e ∈ entries, (e = .single ip) ∨ (∃ b n, e = .cidr b n ∧ cidrContains b n ip = true) := by
  simp only [ipAllowed_iff, entryMatches_iff]

theorem malformed_client_rejected (entries : List AllowEntry) : ipAllowed none entries = false := rfl

theorem malformed_entries_skipped (ip : IP) (entries : List AllowEntry) :
    ipAllowed (some ip) (entries.filter (· ≠ .bad)) = ipAllowed (some ip) entries := by
  simp only [ipAllowed, List.any_filter]
  congr; funext e
  cases e <;> simp [entryMatches]

/-- CIDR membership is equality of the leading prefix-length bits, for every prefix length. -/
theorem cidr_v4 (b a ones : Nat) (h : ones ≤ 32) :
    cidrContains (.v4 b) ones (.v4 a) = true ↔ b / 2 ^ (32 - ones) = a / 2 ^ (32 - ones) := by
  simp [cidrContains, h, Nat.shiftRight_eq_div_pow]

theorem cidr_v6 (b a ones : Nat) (h : ones ≤ 128) :
    cidrContains (.v6 b) ones (.v6 a) = true ↔ b / 2 ^ (128 - ones) = a / 2 ^ (128 - ones) := by
  simp [cidrContains, h, Nat.shiftRight_eq_div_pow]

/-- An IPv4-mapped IPv6 client address is the same client as its IPv4 form. -/
theorem mapped_is_v4 (a : Nat) (h : a < 4294967296) (entries : List AllowEntry) :
    ipAllowed (some (normalizeIP (4294967296 * 65535 + a))) entries = ipAllowed (some (.v4 a)) entries := by
  rw [normalizeIP_mapped a h]

/-- An empty list admits everyone; a non-empty list admits exactly its members. -/
theorem empty_list_admits (c : Option IP) : hostAdmitted c [] = true := rfl

theorem nonempty_list_gates (c : Option IP) (e : AllowEntry) (es : List AllowEntry) :
    hostAdmitted c (e :: es) = ipAllowed c (e :: es) := by simp [hostAdmitted]

/-- A request that fails the host filter or the secure-port rule is denied, whatever its credential. -/
theorem gate_denies (ms mg : Nat) (c : Option IP) (es : List AllowEntry) (secure : Bool) (port fl : Nat)
    (body sq : Bytes)
    (h : hostAdmitted c es = false ∨ (secure = true ∧ port ≥ Gen.securePortBound)) :
    validateAuth ms mg c es secure port Gen.securePortBound fl body sq = .denied :=
  (validateAuth_denied_iff ..).mpr (h.imp_right fun ⟨h1, h2⟩ => .inl (by simp [h1, h2]))

/-- Secure: whatever is admitted came from a port below 1024. -/
theorem secure_only_privileged (ms mg : Nat) (c : Option IP) (es : List AllowEntry) (port fl : Nat)
    (body sq : Bytes) (id : Identity)
    (h : validateAuth ms mg c es true port Gen.securePortBound fl body sq = .allowed id) :
    port < 1024 := by
  have hp := ((validateAuth_allowed_iff ..).mp h).2.1
  rw [gen_secure_port] at hp
  simpa using hp

/-! non-vacuity -/
example : ipAllowed (some (.v4 0xC0A80164)) [.bad, .cidr (.v4 0xC0A80100) 24] = true := by decide
example : ipAllowed (some (.v4 0xC0A80264)) [.bad, .cidr (.v4 0xC0A80100) 24] = false := by decide
example : ipAllowed (some (normalizeIP (4294967296 * 65535 + 0x0A000001))) [.single (.v4 0x0A000001)] = true := by
  decide

/-- regenerated from the source on every run: HandleCall takes the policy read lock before it validates the caller (so that an update drains requests judged under the old policy), and the address it judges is the peer's -/
theorem gen_validation_under_lock : (Gen.handleCallValidatesUnderLock && Gen.connLoopClientIPFromPeer) = true := by decide

end Props.C09
