/-
  C23 — READ and WRITE within the advertised FSINFO limits are served.
  `fsinfoBody` is the model of handleFsinfo's transfer-size fields (the handler is replayed request by request
  against it); `cfg.transfer` is the effective TransferSize, whether set at construction or at runtime (the
  handlers load it per request), `cfg.maxRecord` is DefaultMaxRecordSize (regenerated from the source).
-/
import Absnfs.ServerData
import Gen.Facts
open Absnfs Absnfs.Server

namespace Props.C23

theorem gen_fsinfo_from_config : Gen.fsinfoUsesTransferSize = true := by decide
theorem gen_record_limit : Gen.defaultMaxRecordSize = 1048576 := by decide
/-- the hypothesis `0 < cfg.transfer` of the theorems below: construction defaults TransferSize, and a runtime
    update defaults its snapshot *before* publishing it, so no request ever loads a zero TransferSize -/
theorem gen_transfer_defaulted : Gen.cfgNewUsesSharedDefaults = true ∧ Gen.cfgTuningUpdateAppliesDefaults = true := by decide

/-- the advertised maxima and preferred sizes -/
def advertised (cfg : Cfg) : Nat × Nat × Nat :=
  let m0 := if cfg.transfer > 0 ∧ cfg.transfer < 1048576 then cfg.transfer else 1048576
  let xferMax := if m0 > cfg.maxRecord - 4096 then cfg.maxRecord - 4096 else m0
  (xferMax, (if 65536 > xferMax then xferMax else 65536), (if 4096 > xferMax then 1 else 4096))

theorem fsinfo_fields (cfg : Cfg) (a : Rfc.Fattr) :
    fsinfoBody cfg a = .fsinfoOk (some a) (advertised cfg).1 (advertised cfg).2.1 (advertised cfg).2.2
      (advertised cfg).1 (advertised cfg).2.1 (advertised cfg).2.2 8192 1099511627776 0 1000000 0x1a := by
  unfold fsinfoBody advertised
  rfl

/-- The advertised maxima never exceed what READ/WRITE accept (TransferSize) nor what the record reader accepts
    with room for the call header (DefaultMaxRecordSize − 4096); preferred ≤ maximum; all are positive. -/
theorem advertised_within_limits (cfg : Cfg) (ht : 0 < cfg.transfer) (hr : 4096 < cfg.maxRecord) :
    (advertised cfg).1 ≤ cfg.transfer ∧ (advertised cfg).1 + 4096 ≤ cfg.maxRecord ∧
    0 < (advertised cfg).1 ∧ 0 < (advertised cfg).2.1 ∧ (advertised cfg).2.1 ≤ (advertised cfg).1 ∧
    0 < (advertised cfg).2.2 ∧ (advertised cfg).2.2 ≤ (advertised cfg).1 := by
  unfold advertised
  -- the two maxima are caps, so `min`s; first the default for TransferSize
  simp only [clip_eq_min]
  generalize hm0 : (if cfg.transfer > 0 ∧ cfg.transfer < 1048576 then cfg.transfer else 1048576) = m0
  have h0 : 0 < m0 ∧ m0 ≤ cfg.transfer := by
    subst hm0
    split
    · exact ⟨ht, Nat.le_refl _⟩
    · next hn => exact ⟨by decide, Nat.not_lt.mp fun hlt => hn ⟨ht, hlt⟩⟩
  have hpos : 0 < min m0 (cfg.maxRecord - 4096) := Nat.lt_min.mpr ⟨h0.1, Nat.sub_pos_of_lt hr⟩
  refine ⟨Nat.le_trans (Nat.min_le_left ..) h0.2, Nat.add_le_of_le_sub (Nat.le_of_lt hr) (Nat.min_le_right ..), hpos,
    Nat.lt_min.mpr ⟨by decide, hpos⟩, Nat.min_le_right .., ?_, ?_⟩
  -- dtpref: one block, unless the maximum is smaller than a block
  · split <;> decide
  · split
    · exact hpos
    · exact Nat.not_lt.mp ‹_›

/-- A WRITE whose count is within the advertised wtmax is never refused for its size: the `count > TransferSize`
    test of handleWrite cannot fire. -/
theorem write_within_wtmax_passes_size_check (cfg : Cfg) (cnt : Nat) (ht : 0 < cfg.transfer) (hr : 4096 < cfg.maxRecord)
    (h : cnt ≤ (advertised cfg).1) : ¬ cnt > cfg.transfer := by
  have := (advertised_within_limits cfg ht hr).1
  omega

/-- … and its record (count bytes of data plus at most 4096 bytes of headers and other arguments) is within
    the record size limit. -/
theorem write_within_wtmax_fits_record (cfg : Cfg) (cnt : Nat) (ht : 0 < cfg.transfer) (hr : 4096 < cfg.maxRecord)
    (h : cnt ≤ (advertised cfg).1) : cnt + 4096 ≤ cfg.maxRecord := by
  have := (advertised_within_limits cfg ht hr).2.1
  omega

/-- A READ before EOF with a positive count returns at least one byte, whatever the configured transfer size
    (≥ 1), and never more than requested. -/
theorem read_before_eof_returns_data (s s' : St) (c : Ctx) (args : Bytes) (o : Option Rfc.Fattr) (cntR : Nat) (eof : Bool)
    (data : Bytes) (h : procRead s c args = (s', .res ⟨0, .readOk o cntR eof data⟩)) (ht : 0 < s.cfg.transfer) :
    ∃ (off cnt : Nat) (e : Fs.Entry), data.length = min (min cnt s.cfg.transfer) ((Fs.infoOf e).size - off) ∧
      (0 < cnt → off < (Fs.infoOf e).size → 0 < data.length) ∧ data.length ≤ cnt := by
  cases procRead_ok h with
  | mk _ _ _ _ _ _ _ hdata =>
  have hlen := hdata ▸ readData_length ..
  exact ⟨_, _, _, hlen, fun h1 h2 => hlen ▸ Nat.lt_min.mpr ⟨Nat.lt_min.mpr ⟨h1, ht⟩, Nat.sub_pos_of_lt h2⟩,
    hlen ▸ Nat.le_trans (Nat.min_le_left ..) (Nat.min_le_left ..)⟩

/-- non-vacuity: the default configuration advertises 64 KiB maxima; a 16 MiB TransferSize is capped by the record limit -/
def cfgWith (transfer : Nat) : Cfg :=
  { transfer := transfer, readOnly := false, maxFileSize := 0, squash := .none, maxStr := 8192, fhMax := 64,
    defaultMaxHandles := 100000, evictDivisor := 10, dcMaxDirSize := 10000, maxRecord := 1048576, writeVerf := [] }
example : advertised (cfgWith 65536) = (65536, 65536, 4096) := by decide
example : advertised (cfgWith 16777216) = (1044480, 65536, 4096) := by decide
example : advertised (cfgWith 100) = (100, 100, 1) := by decide

/-- the count in a WRITE reply is the number of bytes written (a write cut short by a lowered TransferSize says so) -/
theorem gen_write_reply_count : Gen.writeReplyCountIsBytesWritten = true := by decide

end Props.C23
