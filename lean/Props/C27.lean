/-
  C27 — Portmapper: registry semantics and loopback-only modification.
-/
import Absnfs.Portmap
import Gen.Facts
open Absnfs Absnfs.Portmap

namespace Props.C27

/-- Regenerated: every SET/UNSET path (portmap v2 and rpcbind v3/v4) tests the caller's address, and a
    PROG_MISMATCH reply carries mismatch_info. -/
theorem gen_loopback_checked :
    (Gen.pmV2SetChecked && Gen.pmV2UnsetChecked && Gen.pmRpcbSetChecked && Gen.pmRpcbUnsetChecked) = true := by
  decide

theorem gen_mismatch_info : Gen.pmMismatchInfo = true := by decide

def genChecks : Checks :=
  { v2Set := Gen.pmV2SetChecked, v2Unset := Gen.pmV2UnsetChecked, rpcbSet := Gen.pmRpcbSetChecked,
    rpcbUnset := Gen.pmRpcbUnsetChecked, mismatchInfo := Gen.pmMismatchInfo }

/-- A caller that is not on a loopback address never changes the registry: for every record (any bytes,
    any protocol version, any procedure), the registry after the call is the registry before. -/
theorem nonloopback_never_changes (maxAuth maxStr : Nat) (addr : Bytes) (r : Registry) (data : Bytes) :
    (handleCall genChecks maxAuth maxStr addr r .other data).1 = r :=
  handleCall_reg (fun _ => rfl) (fun _ => rfl) (fun _ => rfl) (fun _ => rfl) maxAuth addr data

/-- The registry is a map from (program, version, protocol) to port. -/
theorem set_then_get (r : Registry) (p v t port : Nat) : lookup (register r p v t port) p v t = some port := by
  rw [lookup_register, if_pos rfl]

theorem set_other_untouched (r : Registry) (p v t port p' v' t' : Nat) (h : (p', v', t') ≠ (p, v, t)) :
    lookup (register r p v t port) p' v' t' = lookup r p' v' t' := by
  rw [lookup_register, if_neg (Ne.symm h)]

theorem unset_removes (r : Registry) (p v t : Nat) (h : Uniq r) : lookup (unregister r p v t) p v t = none :=
  lookup_unregister_same r p v t h

/-- keys stay unique under every registry update (so "the" mapping for a key is well defined) -/
theorem uniq_preserved (r : Registry) (h : Uniq r) (p v t port : Nat) :
    Uniq (register r p v t port) ∧ Uniq (unregister r p v t) :=
  ⟨uniq_register r p v t port h, uniq_unregister r p v t h⟩

/-- GETPORT reports exactly the current registration (0 when there is none). -/
theorem getport_reports (r : Registry) (p v t : Nat) : getPort r p v t = (lookup r p v t).getD 0 := by
  unfold getPort lookup
  cases r.find? (fun m => sameKey m p v t) <;> rfl

/-- DUMP (v2) lists exactly the current registrations, in registry order: it decodes back to the registry. -/
def decDumpV2 : Nat → Bytes → Option Registry
  | 0, _ => none
  | fuel + 1, bs =>
    match decU32 bs with
    | none => none
    | some (more, r0) =>
      if more = 0 then (if r0 = [] then some [] else none) else
      match decU32 r0 with
      | none => none
      | some (p, r1) =>
      match decU32 r1 with
      | none => none
      | some (v, r2) =>
      match decU32 r2 with
      | none => none
      | some (t, r3) =>
      match decU32 r3 with
      | none => none
      | some (port, r4) =>
        match decDumpV2 fuel r4 with
        | none => none
        | some rest => some (⟨p, v, t, port⟩ :: rest)

def MappingWF (m : Mapping) : Prop :=
  m.prog < 4294967296 ∧ m.vers < 4294967296 ∧ m.prot < 4294967296 ∧ m.port < 4294967296

theorem dump_reports_exactly (r : Registry) (h : ∀ m ∈ r, MappingWF m) :
    decDumpV2 (r.length + 1) (dumpV2 r) = some r := by
  induction r with
  | nil => rfl
  | cons m ms ih =>
    obtain ⟨h1, h2, h3, h4⟩ := h m (List.mem_cons_self ..)
    have ih' := ih fun x hx => h x (List.mem_cons_of_mem _ hx)
    simp only [dumpV2, List.flatMap_cons, List.append_assoc] at ih' ⊢
    simp only [List.length_cons, decDumpV2, decU32_encU32 1 (by decide), decU32_encU32 _ h1, decU32_encU32 _ h2,
      decU32_encU32 _ h3, decU32_encU32 _ h4, ih', Nat.succ_ne_zero, if_false]

/-- Replies are well-formed RFC 1831 accepted replies that echo the XID, for each accept_stat the
    portmapper uses (success with results, PROG_UNAVAIL, PROG_MISMATCH with mismatch_info, PROC_UNAVAIL). -/
theorem reply_wellformed (xid : Nat) (hx : xid < 4294967296) (data : Bytes) (maxAuth : Nat)
    (hm : maxAuth < 4294967296) :
    decReply maxAuth (makeReply true xid 0 data) = some (.success xid ⟨0, []⟩ data) ∧
    decReply maxAuth (makeReply true xid 1 []) = some (.progUnavail xid ⟨0, []⟩) ∧
    decReply maxAuth (makeReply true xid 3 []) = some (.procUnavail xid ⟨0, []⟩) :=
  ⟨decReply_makeReply true xid 0 data maxAuth hx hm (by decide) (by decide) (fun h => absurd rfl h),
   decReply_makeReply true xid 1 [] maxAuth hx hm (by decide) (by decide) (fun _ => rfl),
   decReply_makeReply true xid 3 [] maxAuth hx hm (by decide) (by decide) (fun _ => rfl)⟩

theorem mismatch_reply_wellformed (xid : Nat) (hx : xid < 4294967296) (maxAuth : Nat) :
    decReply maxAuth (makeReply true xid 2 []) = some (.progMismatch xid ⟨0, []⟩ 2 4) := by
  simp only [makeReply, decReply, List.append_assoc]
  rw [decU32_encU32 _ hx]
  rfl

/-- Without the address test on the rpcbind v3/v4 handlers the statement is false (what the unrepaired
    code did): a v3 SET from a non-loopback caller registers a mapping. -/
theorem unchecked_rpcb_counterexample :
    let ck : Checks := { v2Set := true, v2Unset := true, rpcbSet := false, rpcbUnset := false, mismatchInfo := true }
    let args := encU32 100003 ++ encU32 3 ++ encOpaque netidTcp ++ encOpaque [49, 46, 50, 46, 51, 46, 52, 46, 56, 46, 49] ++ encOpaque []
    (rpcbSet ck.rpcbSet 8192 [] .other args).reg = [⟨100003, 3, 6, 2049⟩] := by
  decide

end Props.C27
