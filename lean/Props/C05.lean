/-
  C05 — File handles are live when issued, one per path, and the table is bounded.
  `Gen.defaultMaxHandles` / `Gen.evictDivisor` are read from filehandle.go on every run.
-/
import Absnfs.HandlesInv
import Absnfs.ServerMade
import Gen.Facts
open Absnfs Absnfs.Handles

namespace Props.C05

theorem gen_constants : Gen.defaultMaxHandles = 100000 ∧ Gen.evictDivisor = 10 ∧ 0 < Gen.defaultMaxHandles := by
  decide

/-- Regenerated structural fact: the eviction loop in Allocate skips the handle it has just assigned. -/
theorem gen_eviction_skips_new : Gen.evictionSkipsAssigned = true := by decide
/-- each table operation is one critical section in the code, as `alloc`/`release`/`releaseAll` are one step here -/
theorem gen_ops_atomic : Gen.handleOpsAtomic = true := by decide

abbrev alloc' := alloc Gen.defaultMaxHandles Gen.evictDivisor
abbrev run' := run Gen.defaultMaxHandles Gen.evictDivisor
abbrev Inv' := Inv Gen.defaultMaxHandles

/-- Every reachable table satisfies the invariant (unique ids, unique paths, free ∩ live = ∅, ids < next). -/
theorem reachable_inv (raw : Int) (ops : List Op) (hw : ∀ op ∈ ops, op.WF) : Inv' (run' (init raw) ops) :=
  inv_run _ _ (by decide) _ ops hw (inv_init _ raw)

theorem run_maxRaw (dm dv : Nat) (s : St) (ops : List Op) : (run dm dv s ops).maxRaw = s.maxRaw := by
  refine List.foldlRecOn (motive := fun t : St => t.maxRaw = s.maxRaw) ops _ rfl fun t ht op _ => ?_
  rw [← ht]
  cases op with
  | alloc p => exact alloc_maxRaw ..
  | release h => simp only [step, release]; split <;> rfl
  | releaseAll => rfl

/-- Bounded: after any history, for any configured maximum, live handles ≤ the effective maximum. -/
theorem bounded (raw : Int) (ops : List Op) (hw : ∀ op ∈ ops, op.WF) :
    (run' (init raw) ops).live.length ≤ effMax Gen.defaultMaxHandles raw := by
  have := (reachable_inv raw ops hw).bounded
  rw [run_maxRaw] at this
  exact this

/-- Live when issued: the handle Allocate returns resolves, in the resulting table, to the path it was
    issued for — whether it was deduplicated, fresh, or recycled, and whether or not eviction ran. -/
theorem live_when_issued (s : St) (p : Bytes) (hp : p ≠ []) (hI : Inv' s) :
    get (alloc' s p).1 (alloc' s p).2 = some p := get_alloc _ _ s p hI

/-- One per path: while a handle is live, re-issuing for its path returns the same value and changes nothing. -/
theorem one_per_path (s : St) (h : Nat) (p : Bytes) (hp : p ≠ []) (hI : Inv' s) (hg : get s h = some p) :
    (alloc' s p).2 = h ∧ (alloc' s p).1.live = s.live := by
  unfold alloc'
  rw [alloc_live _ _ s h p hp hI hg]
  exact ⟨rfl, rfl⟩

/-- Distinct live paths have distinct handles, and a live handle denotes one path. -/
theorem handles_injective (s : St) (hI : Inv' s) (h : Nat) (p q : Bytes)
    (h1 : get s h = some p) (h2 : get s h = some q) : p = q := by
  rw [h1] at h2; exact Option.some.inj h2

/-- KNOWN FINDING (C05/readdirplus-evicts-own-handles), kept in the model: protecting only the id just
    assigned does not protect ids assigned earlier in the same READDIRPLUS reply. With a full table the
    recycled (small) ids of the first entries are exactly what the next eviction removes.
    Witness: max 2; a,b live; release a (id 1 is free); one reply allocates c (gets id 1) then d: the
    eviction triggered by d removes id 1, the handle just returned for c. -/
theorem readdirplus_counterexample :
    let s0 := run 100000 10 (init 2) [.alloc [97], .alloc [98], .release 1]
    let r1 := alloc 100000 10 s0 [99]
    let r2 := alloc 100000 10 r1.1 [100]
    r1.2 = 1 ∧ get r2.1 r1.2 = none := by
  decide

/-- What does hold for multi-handle replies: if the table has room for all of them, none is evicted. -/
theorem no_eviction_when_room (s : St) (p : Bytes) (hp : p ≠ [])
    (hroom : s.live.length + 1 ≤ effMax Gen.defaultMaxHandles s.maxRaw) (h : Nat) (q : Bytes)
    (hq : (h, q) ∈ s.live) : (h, q) ∈ (alloc' s p).1.live := (alloc_room _ _ s p hroom).1 hq

/-! non-vacuity -/
example : Inv' (run' (init 2) [.alloc [97], .alloc [98], .alloc [99], .release 2, .alloc [100]]) :=
  reachable_inv 2 _ (by intro op hop; simp at hop; rcases hop with rfl | rfl | rfl | rfl | rfl <;> simp [Op.WF])
example : (run' (init 2) [.alloc [97], .alloc [98], .alloc [99]]).live.length = 2 := by decide

/-! ### handler level: the table inside the server, after any history of requests

`Server.CInv` (the invariant every request keeps, `Props.C02.handle_cinv`) carries the table invariant, so the three
clauses of the property are statements about replies. `s0` is any state satisfying the invariant (a new server does:
`Props.C02.new_server_cinv`), `rs` any list of requests. -/

section handler
open Absnfs.Server

/-- Clause 1, LOOKUP / CREATE / MKDIR / SYMLINK / MNT: the handle in an NFS3_OK reply resolves, in the state the
    reply leaves behind (what the immediately following request sees), to directory-path/name (MNT: the cleaned
    path), and the node stored under it carries the attributes the reply reported. -/
theorem lookup_handle_resolves (s0 : Server.St) (rs : List Req) (h0 : CInv s0) (s' : Server.St) (c : Ctx) (args : Bytes) (fh : Nat)
    (fa : Rfc.Fattr) (da : Option Rfc.Fattr)
    (h : procLookup (runReqs s0 rs) c args = (s', .res ⟨0, .lookupOk fh (some fa) da⟩)) :
    ∃ hd r1 name r2 n a, decFh' (runReqs s0 rs) args = some (hd, r1) ∧ decStr (runReqs s0 rs) r1 = some (name, r2) ∧
      nodeOf (runReqs s0 rs) hd = some n ∧ nodeOf s' fh = some { path := joinName n.path name, attrs := a } ∧ fa = toFattr a :=
  procLookup_handle _ s' c args fh fa da (runReqs_cinv s0 rs h0) h

theorem create_handle_resolves (s0 : Server.St) (rs : List Req) (h0 : CInv s0) (s' : Server.St) (c : Ctx) (args : Bytes) (fh : Nat)
    (fa : Rfc.Fattr) (w : Rfc.Wcc) (h : procCreate (runReqs s0 rs) c args = (s', CreatedOk fh fa w)) :
    ∃ hd r1 name r2 n a, decFh' (runReqs s0 rs) args = some (hd, r1) ∧ decStr (runReqs s0 rs) r1 = some (name, r2) ∧
      nodeOf (runReqs s0 rs) hd = some n ∧ nodeOf s' fh = some { path := joinName n.path name, attrs := a } ∧ fa = toFattr a ∧
      MatchesLstat s'.fs (joinName n.path name) a :=
  (procCreate_creation (runReqs_cinv s0 rs h0) h).handle

theorem mkdir_handle_resolves (s0 : Server.St) (rs : List Req) (h0 : CInv s0) (s' : Server.St) (c : Ctx) (args : Bytes) (fh : Nat)
    (fa : Rfc.Fattr) (w : Rfc.Wcc) (h : procMkdir (runReqs s0 rs) c args = (s', CreatedOk fh fa w)) :
    ∃ hd r1 name r2 n a, decFh' (runReqs s0 rs) args = some (hd, r1) ∧ decStr (runReqs s0 rs) r1 = some (name, r2) ∧
      nodeOf (runReqs s0 rs) hd = some n ∧ nodeOf s' fh = some { path := joinName n.path name, attrs := a } ∧ fa = toFattr a ∧
      MatchesLstat s'.fs (joinName n.path name) a :=
  (procMkdir_creation (runReqs_cinv s0 rs h0) h).handle

theorem symlink_handle_resolves (s0 : Server.St) (rs : List Req) (h0 : CInv s0) (s' : Server.St) (c : Ctx) (args : Bytes) (fh : Nat)
    (fa : Rfc.Fattr) (w : Rfc.Wcc) (h : procSymlink (runReqs s0 rs) c args = (s', CreatedOk fh fa w)) :
    ∃ hd r1 name r2 n a, decFh' (runReqs s0 rs) args = some (hd, r1) ∧ decStr (runReqs s0 rs) r1 = some (name, r2) ∧
      nodeOf (runReqs s0 rs) hd = some n ∧ nodeOf s' fh = some { path := joinName n.path name, attrs := a } ∧ fa = toFattr a ∧
      MatchesLstat s'.fs (joinName n.path name) a :=
  (procSymlink_creation (runReqs_cinv s0 rs h0) h).handle

theorem mnt_handle_resolves (s0 : Server.St) (rs : List Req) (h0 : CInv s0) (s' : Server.St) (c : Ctx) (args fhb : Bytes)
    (auth : List Nat) (h : procMnt (runReqs s0 rs) c args = (s', .res ⟨0, .mntOk fhb auth⟩)) :
    ∃ raw r fh a, decStr (runReqs s0 rs) args = some (raw, r) ∧ fhb = encU64 fh ∧
      nodeOf s' fh = some { path := cleanAbs raw, attrs := a } :=
  procMnt_handle _ s' c args fhb auth (runReqs_cinv s0 rs h0) h

/-- Clause 1, READDIRPLUS — PARTIAL: pages whose listing fits in the table (no eviction inside the batch). Every
    handle of an NFS3_OK page resolves, after the whole page was built, to an object with the entry's name.
    The full statement is false on a full table: `readdirplus_counterexample`, known finding
    C05/readdirplus-evicts-own-handles. -/
theorem readdirplus_handles_resolve_partial (s0 : Server.St) (rs : List Req) (h0 : CInv s0) (s' : Server.St) (c : Ctx) (args : Bytes)
    (a : Option Rfc.Fattr) (verf : Bytes) (ents : List Rfc.DirEntPlus) (eof : Bool)
    (hroom : ∀ hd r1 n nodes, decFh' (runReqs s0 rs) args = some (hd, r1) → nodeOf (runReqs s0 rs) hd = some n →
      (readDir (runReqs s0 rs) c.now n).2 = .ok nodes →
      (runReqs s0 rs).hs.live.length + nodes.length ≤
        effMax (runReqs s0 rs).cfg.defaultMaxHandles (runReqs s0 rs).hs.maxRaw)
    (h : procReaddirplus (runReqs s0 rs) c args = (s', .res ⟨0, .readdirplusOk a verf ents eof⟩)) :
    ∀ e ∈ ents, ∃ fh p at', e.fh = some fh ∧ e.name = baseName p ∧ nodeOf s' fh = some { path := p, attrs := at' } :=
  procReaddirplus_handles _ s' c args a verf ents eof (runReqs_cinv s0 rs h0) hroom h

/-- Clause 2: while a handle for dir-path/name is live, a LOOKUP of that name returns the same handle value;
    and two live handles never name the same path. -/
theorem lookup_reissues_same_handle (s0 : Server.St) (rs : List Req) (h0 : CInv s0) (s' : Server.St) (c : Ctx) (args : Bytes) (fh : Nat)
    (fa da : Option Rfc.Fattr) (h : procLookup (runReqs s0 rs) c args = (s', .res ⟨0, .lookupOk fh fa da⟩))
    (hd : Nat) (r1 name r2 : Bytes) (n : Node) (hfh : decFh' (runReqs s0 rs) args = some (hd, r1))
    (hname : decStr (runReqs s0 rs) r1 = some (name, r2)) (hn : nodeOf (runReqs s0 rs) hd = some n)
    (fh0 : Nat) (n0 : Node) (hlive : nodeOf (runReqs s0 rs) fh0 = some n0) (hpath : n0.path = joinName n.path name) : fh = fh0 :=
  procLookup_same_handle _ s' c args fh fa da (runReqs_cinv s0 rs h0) h hd r1 name r2 n hfh hname hn fh0 n0 hlive hpath

theorem one_live_handle_per_path (s0 : Server.St) (rs : List Req) (h0 : CInv s0) (h1 h2 : Nat) (n1 n2 : Node)
    (a : nodeOf (runReqs s0 rs) h1 = some n1) (b : nodeOf (runReqs s0 rs) h2 = some n2) (hp : n1.path = n2.path) : h1 = h2 :=
  table_injective _ (runReqs_cinv s0 rs h0) h1 h2 n1 n2 a b hp

/-- Clause 3: after any history of requests the number of live handles is within the effective maximum -/
theorem server_table_bounded (s0 : Server.St) (rs : List Req) (h0 : CInv s0) :
    (runReqs s0 rs).hs.live.length ≤ effMax (runReqs s0 rs).cfg.defaultMaxHandles (runReqs s0 rs).hs.maxRaw :=
  (runReqs_cinv s0 rs h0).htab.bounded

end handler

/-- regenerated from the source on every run: MNT cleans the requested path before it becomes the key handles are deduplicated on -/
theorem gen_mnt_cleans_path : Gen.mntCleansPath = true := by decide

end Props.C05
